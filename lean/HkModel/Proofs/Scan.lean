/-!
  Facts that several property files share and that mention nothing of the model: `find?` of the one element with a
  property, `eraseDups`, reading an `if … else if …` cascade, trimming a list from both ends is idempotent, and the two
  loop schemes of the publish handlers —

  * `firstBad`: scan a list with the keys of the elements already passed, stop at the first element a test rejects;
  * `mapFirstErr`: apply a fallible function to every element, stop at the first failure.

  For each scheme: where it stops, nothing before that place fails; where it does not stop, nothing fails.
-/
namespace List

theorem find?_eq_some_of_unique {α : Type} {p : α → Bool} {l : List α} {a : α} (ha : a ∈ l) (hp : p a = true)
    (h : ∀ x ∈ l, p x = true → x = a) : l.find? p = some a := by
  cases hf : l.find? p with
  | none => exact absurd hp (by simpa using find?_eq_none.1 hf a ha)
  | some x => rw [h x (mem_of_find?_eq_some hf) (find?_some hf)]

variable {α : Type} [BEq α]

theorem eraseDups_sublist : ∀ l : List α, l.eraseDups <+ l
  | [] => .slnil
  | a :: as => by
    rw [eraseDups_cons]
    exact ((eraseDups_sublist _).trans filter_sublist).cons_cons a
termination_by l => l.length
decreasing_by exact Nat.lt_succ_of_le (length_filter_le ..)

theorem nodup_eraseDups [LawfulBEq α] : ∀ l : List α, l.eraseDups.Nodup
  | [] => nodup_nil
  | a :: as => by
    rw [eraseDups_cons, nodup_cons]
    exact ⟨by simp, nodup_eraseDups _⟩
termination_by l => l.length
decreasing_by exact Nat.lt_succ_of_le (length_filter_le ..)

theorem nodup_of_eraseDups [LawfulBEq α] {l : List α} (h : l.eraseDups.length = l.length) : l.Nodup :=
  (eraseDups_sublist l).eq_of_length h ▸ nodup_eraseDups l

end List

namespace Hk.Scan
variable {α β ε : Type}

/-- Read along a cascade `if c₁ then r₁ else if c₂ then r₂ else …`, this says which tests an answer passed and which
    one produced it; `simp` then walks the whole cascade. -/
theorem ite_eq_iff {c : Prop} [Decidable c] {a b x : α} : (if c then a else b) = x ↔ c ∧ a = x ∨ ¬c ∧ b = x := by
  split <;> simp [*]

/-- One gate of such a cascade: a property holds of the cascade's answer if it holds of this gate's own answer and, for
    what the gate lets pass, of the answer of the rest. -/
theorem gate {P : α → Prop} {c : Prop} [Decidable c] {a b : α} (ha : P a) (hb : ¬c → P b) : P (if c then a else b) := by
  split
  · exact ha
  · exact hb ‹_›

theorem beq_eq_beq [BEq α] [LawfulBEq α] {a b c d : α} : (a == b) = (c == d) ↔ (a = b ↔ c = d) := by
  rw [Bool.eq_iff_iff, beq_iff_eq, beq_iff_eq]

theorem dropWhile_idem (p : α → Bool) : ∀ l : List α, (l.dropWhile p).dropWhile p = l.dropWhile p
  | [] => rfl
  | a :: t => by
    by_cases h : p a = true
    · rw [List.dropWhile_cons_of_pos h]; exact dropWhile_idem p t
    · rw [List.dropWhile_cons_of_neg h, List.dropWhile_cons_of_neg h]

theorem dropWhile_self_of_append (p : α → Bool) (x y : List α)
    (h : (x ++ y).dropWhile p = x ++ y) : x.dropWhile p = x := by
  cases x with
  | nil => rfl
  | cons a t =>
    by_cases hp : p a = true
    · rw [List.cons_append, List.dropWhile_cons_of_pos hp] at h
      have := (List.dropWhile_suffix p (l := t ++ y)).length_le
      rw [h] at this
      simp only [List.length_cons] at this
      omega
    · exact List.dropWhile_cons_of_neg hp

theorem trimList_idem (p : α → Bool) (l : List α) :
    (((((l.dropWhile p).reverse.dropWhile p).reverse).dropWhile p).reverse.dropWhile p).reverse =
      ((l.dropWhile p).reverse.dropWhile p).reverse := by
  obtain ⟨c, hc⟩ := List.dropWhile_suffix p (l := (l.dropWhile p).reverse)
  generalize hb : (l.dropWhile p).reverse.dropWhile p = b at hc ⊢
  have hbb : b.dropWhile p = b := by rw [← hb, dropWhile_idem]
  have ha : l.dropWhile p = b.reverse ++ c.reverse := by
    have := congrArg List.reverse hc
    simpa using this.symm
  have h1 : b.reverse.dropWhile p = b.reverse := by
    apply dropWhile_self_of_append p _ c.reverse
    rw [← ha, dropWhile_idem]
  rw [h1, List.reverse_reverse, hbb]

/-- The index, counted from `k`, of the first element that `bad` rejects. `bad` is also given the keys of the elements
    before it, behind the initial `seen`. -/
def firstBad (bad : List β → α → Bool) (key : α → β) (seen : List β) (k : Nat) : List α → Option Nat
  | [] => none
  | a :: l => if bad seen a then some k else firstBad bad key (seen ++ [key a]) (k + 1) l

variable {bad : List β → α → Bool} {key : α → β}

theorem firstBad_some_from {l : List α} : ∀ {seen : List β} {k i : Nat}, firstBad bad key seen k l = some i →
    ∃ n, i = k + n ∧ ∃ hn : n < l.length, bad (seen ++ (l.take n).map key) l[n] = true ∧
      ∀ j (hj : j < n), bad (seen ++ (l.take j).map key) (l[j]'(Nat.lt_trans hj hn)) = false := by
  induction l with
  | nil => intro _ _ _ h; cases h
  | cons a l ih =>
    intro seen k i h
    rw [firstBad] at h
    split at h
    next hb =>
      cases h
      exact ⟨0, rfl, Nat.zero_lt_succ _, by simpa using hb, fun j hj => absurd hj (Nat.not_lt_zero j)⟩
    next hb =>
      obtain ⟨n, rfl, hn, hbad, hprev⟩ := ih h
      refine ⟨n + 1, by omega, Nat.succ_lt_succ hn, by simpa using hbad, fun j hj => ?_⟩
      cases j with
      | zero => simpa using hb
      | succ j => simpa using hprev j (Nat.lt_of_succ_lt_succ hj)

theorem firstBad_none_from {l : List α} : ∀ {seen : List β} {k : Nat}, firstBad bad key seen k l = none →
    ∀ j (hj : j < l.length), bad (seen ++ (l.take j).map key) l[j] = false := by
  induction l with
  | nil => intro _ _ _ j hj; cases hj
  | cons a l ih =>
    intro seen k h j hj
    rw [firstBad] at h
    split at h
    · cases h
    next hb =>
      cases j with
      | zero => simpa using hb
      | succ j => simpa using ih h j (Nat.lt_of_succ_lt_succ hj)

theorem firstBad_some {l : List α} {i : Nat} (h : firstBad bad key [] 0 l = some i) :
    ∃ hi : i < l.length, bad ((l.take i).map key) l[i] = true ∧
      ∀ j (hj : j < i), bad ((l.take j).map key) (l[j]'(Nat.lt_trans hj hi)) = false := by
  obtain ⟨n, hn, h⟩ := firstBad_some_from h
  rw [Nat.zero_add] at hn
  subst hn
  simpa only [List.nil_append] using h

theorem firstBad_none {l : List α} (h : firstBad bad key [] 0 l = none) :
    ∀ j (hj : j < l.length), bad ((l.take j).map key) l[j] = false := by
  simpa only [List.nil_append] using firstBad_none_from h

theorem nodup_of_firstBad_none {l : List α} (hkey : ∀ seen a, bad seen a = false → key a ∉ seen)
    (h : firstBad bad key [] 0 l = none) : (l.map key).Nodup := by
  rw [List.Nodup, List.pairwise_iff_getElem]
  intro i j hi hj hij heq
  rw [List.length_map] at hi hj
  apply hkey _ _ (firstBad_none h j hj)
  exact List.mem_map.2 ⟨l[i], List.mem_take_iff_getElem.2 ⟨i, by omega, rfl⟩, by simpa using heq⟩

/-- Apply `f` to every element: the index, counted from `k`, and the error of the first failure, or all results. -/
def mapFirstErr (f : α → Except ε β) (k : Nat) : List α → Except (Nat × ε) (List β)
  | [] => .ok []
  | a :: l =>
    match f a with
    | .error e => .error (k, e)
    | .ok b =>
      match mapFirstErr f (k + 1) l with
      | .error x => .error x
      | .ok bs => .ok (b :: bs)

variable {f : α → Except ε β}

theorem mapFirstErr_error_from {l : List α} : ∀ {k i : Nat} {e : ε}, mapFirstErr f k l = .error (i, e) →
    ∃ n, i = k + n ∧ ∃ hn : n < l.length, f l[n] = .error e ∧
      ∀ j (hj : j < n), ∃ b, f (l[j]'(Nat.lt_trans hj hn)) = .ok b := by
  induction l with
  | nil => intro _ _ _ h; cases h
  | cons a l ih =>
    intro k i e h
    rw [mapFirstErr] at h
    split at h
    next e' he =>
      cases h
      exact ⟨0, rfl, Nat.zero_lt_succ _, he, fun j hj => absurd hj (Nat.not_lt_zero j)⟩
    next b hb =>
      split at h
      next x hx =>
        cases h
        obtain ⟨n, rfl, hn, herr, hprev⟩ := ih hx
        refine ⟨n + 1, by omega, Nat.succ_lt_succ hn, herr, fun j hj => ?_⟩
        cases j with
        | zero => exact ⟨b, hb⟩
        | succ j => exact hprev j (Nat.lt_of_succ_lt_succ hj)
      · cases h

theorem mapFirstErr_error {l : List α} {i : Nat} {e : ε} (h : mapFirstErr f 0 l = .error (i, e)) :
    ∃ hi : i < l.length, f l[i] = .error e ∧ ∀ j (hj : j < i), ∃ b, f (l[j]'(Nat.lt_trans hj hi)) = .ok b := by
  obtain ⟨n, hn, h⟩ := mapFirstErr_error_from h
  rw [Nat.zero_add] at hn
  subst hn
  exact h

theorem mapFirstErr_ok {l : List α} : ∀ {k : Nat} {bs : List β}, mapFirstErr f k l = .ok bs →
    bs.length = l.length ∧ ∀ n (h1 : n < l.length) (h2 : n < bs.length), f l[n] = .ok bs[n] := by
  induction l with
  | nil => intro _ _ h; cases h; exact ⟨rfl, fun n h1 => absurd h1 (Nat.not_lt_zero n)⟩
  | cons a l ih =>
    intro k bs h
    rw [mapFirstErr] at h
    split at h
    · cases h
    next b hb =>
      split at h
      · cases h
      next bs' hbs =>
        cases h
        obtain ⟨hl, hall⟩ := ih hbs
        refine ⟨congrArg (· + 1) hl, fun n h1 h2 => ?_⟩
        cases n with
        | zero => exact hb
        | succ n => exact hall n (Nat.lt_of_succ_lt_succ h1) (Nat.lt_of_succ_lt_succ h2)

theorem map_eq_of_mapFirstErr_ok {γ : Type} {g : β → γ} {h : α → γ} (hf : ∀ a b, f a = .ok b → g b = h a)
    {l : List α} {k : Nat} {bs : List β} (hok : mapFirstErr f k l = .ok bs) : bs.map g = l.map h := by
  obtain ⟨hl, hall⟩ := mapFirstErr_ok hok
  apply List.ext_getElem (by simp [hl])
  intro n h1 h2
  rw [List.length_map] at h1 h2
  simp [hf _ _ (hall n h2 h1)]

end Hk.Scan
