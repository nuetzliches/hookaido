import HkModel.Model.Base64
import HkModel.Model.Fidelity
import HkModel.Proofs.Scan
/-! C07 — payload and header fidelity. -/
namespace Hk.Base64

/-- What the round trip rests on: 64 distinct characters, none of them the padding character. The literal is first
    turned into its character list by `String.toList_ofList`: having the kernel decode it costs as much as the rest. -/
theorem alphabet_facts : alphabet.length = 64 ∧ alphabet.Nodup ∧ '=' ∉ alphabet := by
  have h : alphabet = _ := String.toList_ofList
  rw [h]
  decide +kernel

theorem lt_length {n : Nat} (h : n < 64) : n < alphabet.length := by rw [alphabet_facts.1]; exact h

theorem dec6_enc6 {n : Nat} (h : n < 64) : dec6 (enc6 n) = some n := by
  unfold dec6 enc6
  rw [← List.getElem_eq_getD (h := lt_length h), show alphabet.findIdx _ = n from alphabet_facts.2.1.idxOf_getElem n _]
  exact if_pos h

theorem enc6_mem {n : Nat} (h : n < 64) : enc6 n ∈ alphabet := by
  unfold enc6
  rw [← List.getElem_eq_getD (h := lt_length h)]
  exact List.getElem_mem _

theorem enc6_ne_pad {n : Nat} (h : n < 64) : (enc6 n == '=') = false :=
  beq_eq_false_iff_ne.mpr fun he => alphabet_facts.2.2 (he ▸ enc6_mem h)

theorem ofNat_eq {a : UInt8} {n : Nat} (h : n = a.toNat) : UInt8.ofNat n = a := by
  subst h; exact UInt8.ofNat_toNat

theorem sextets {a b c : Nat} (ha : a < 256) (hb : b < 256) (hc : c < 256) :
    a / 4 < 64 ∧ a % 4 * 16 + b / 16 < 64 ∧ b % 16 * 4 + c / 64 < 64 ∧ c % 64 < 64 ∧
    a / 4 * 4 + (a % 4 * 16 + b / 16) / 16 = a ∧
    (a % 4 * 16 + b / 16) % 16 * 16 + (b % 16 * 4 + c / 64) / 4 = b ∧
    (b % 16 * 4 + c / 64) % 4 * 64 + c % 64 = c := by omega

/-- one lemma for 0, 1 or 2 pads: the bits of the dropped bytes are ignored, so `b`, `c` are arbitrary there -/
theorem decode_group (a b c : UInt8) {p q r s : Nat} (hp : p = a.toNat / 4) (hq : q = a.toNat % 4 * 16 + b.toNat / 16)
    (hr : r = b.toNat % 16 * 4 + c.toNat / 64) (hs : s = c.toNat % 64) :
    decode [enc6 p, enc6 q, '=', '='] = some [a] ∧ decode [enc6 p, enc6 q, enc6 r, '='] = some [a, b] ∧
    ∀ {cs bs}, decode cs = some bs → decode (enc6 p :: enc6 q :: enc6 r :: enc6 s :: cs) = some (a :: b :: c :: bs) := by
  subst hp hq hr hs
  obtain ⟨hp, hq, hr, hs, ha, hb, hc⟩ := sextets a.toNat_lt b.toNat_lt c.toNat_lt
  refine ⟨?_, ?_, fun h => ?_⟩
  · rw [decode, if_pos (by rfl), dec6_enc6 hp, dec6_enc6 hq]
    simp only [Option.bind_eq_bind, Option.bind_some, Option.pure_def, ofNat_eq ha]
  · rw [decode, enc6_ne_pad hr, if_neg nofun, if_pos (by rfl), dec6_enc6 hp, dec6_enc6 hq, dec6_enc6 hr]
    simp only [Option.bind_eq_bind, Option.bind_some, Option.pure_def, ofNat_eq ha, ofNat_eq hb]
  · rw [decode, enc6_ne_pad hr, enc6_ne_pad hs, if_neg nofun, if_neg nofun,
      dec6_enc6 hp, dec6_enc6 hq, dec6_enc6 hr, dec6_enc6 hs, h]
    simp only [Option.bind_eq_bind, Option.bind_some, Option.pure_def, ofNat_eq ha, ofNat_eq hb, ofNat_eq hc]

/-- **base64 round trip**: decoding the encoding of *any* byte string gives the byte string back — every length,
    every byte value (NUL, invalid UTF-8, …). A final group of one or two bytes is a full group whose missing bytes
    are 0 (`x + 0 / 16` reduces to `x`). -/
theorem b64_roundtrip : ∀ (bs : List UInt8), decode (encode bs) = some bs
  | [] => rfl
  | [a] => (decode_group a 0 0 rfl rfl rfl rfl).1
  | [a, b] => (decode_group a b 0 rfl rfl rfl rfl).2.1
  | a :: b :: c :: rest => (decode_group a b c rfl rfl rfl rfl).2.2 (b64_roundtrip rest)

theorem encode_length : ∀ (bs : List UInt8), (encode bs).length = (bs.length + 2) / 3 * 4
  | [] => by simp [encode]
  | [_] => by simp [encode]
  | [_, _] => by simp [encode]
  | _ :: _ :: _ :: rest => by simp only [encode, List.length_cons, encode_length rest]; omega

/-! test vectors (RFC 4648 §10) -/
#guard encodeStr "foobar".toUTF8.toList == "Zm9vYmFy" && encodeStr "fo".toUTF8.toList == "Zm8=" && encodeStr "f".toUTF8.toList == "Zg=="
#guard decodeStr "Zm9vYg==" == some "foob".toUTF8.toList && decodeStr "Zg=" == none && decodeStr "Z===" == none

end Hk.Base64

namespace Hk.Fidelity
open Hk.Route (canonHeader)

theorem put_keys (m : List (String × String)) (k v : String) (p : String × String) (hp : p ∈ put m k v) :
    p ∈ m ∨ p = (k, v) := by
  unfold put at hp
  split at hp
  · obtain ⟨q, hq, rfl⟩ := List.mem_map.mp hp
    split
    · right; rfl
    · left; exact hq
  · rcases List.mem_append.mp hp with h | h
    · left; exact h
    · right; simpa using h

theorem foldl_put_origin (f : (String × List String) → String × String) :
    ∀ (l : List (String × List String)) (acc : List (String × String)) (p : String × String),
      p ∈ l.foldl (fun acc x => put acc (f x).1 (f x).2) acc → p ∈ acc ∨ ∃ x ∈ l, p = f x := by
  intro l
  induction l with
  | nil => intro acc p h; left; simpa using h
  | cons x xs ih =>
    intro acc p h
    rcases ih _ p h with h | ⟨y, hy, rfl⟩
    · rcases put_keys acc _ _ p h with h | h
      · left; exact h
      · right; exact ⟨x, by simp, by rw [h]⟩
    · right; exact ⟨y, by simp [hy], rfl⟩

theorem copyHeaders_some {h : List (String × List String)} {maxBytes : Nat} {extra out : List (String × String)}
    (hc : copyHeaders h maxBytes extra = some out) :
    (maxBytes = 0 ∧ out = []) ∨ (out = withExtras (base h) extra ∧ size out ≤ maxBytes) := by
  unfold copyHeaders at hc
  split at hc
  · split at hc
    · exact .inl ⟨by simpa using ‹(maxBytes == 0) = true›, (Option.some.inj hc).symm⟩
    · cases hc
  · unfold finish at hc
    split at hc
    · cases hc
    · cases hc; exact .inr ⟨rfl, by omega⟩

/-- **Authorization, Proxy-Authorization and Cookie are never persisted** (any letter case); `[]`: no forward-auth extras. -/
theorem stored_headers_origin (h : List (String × List String)) (maxBytes : Nat) (out : List (String × String))
    (hc : copyHeaders h maxBytes [] = some out) (p : String × String) (hp : p ∈ out) :
    ∃ k vs, (k, vs) ∈ h ∧ sensitive k = false ∧ p = (canonHeader k, joinComma vs) := by
  rcases copyHeaders_some hc with ⟨_, rfl⟩ | ⟨rfl, _⟩
  · cases hp
  · rcases foldl_put_origin (fun x => (canonHeader x.1, joinComma x.2)) _ [] p hp with h0 | ⟨x, hx, rfl⟩
    · cases h0
    · have hx' := List.mem_filter.mp hx
      exact ⟨x.1, x.2, hx'.1, by simpa using hx'.2, rfl⟩

theorem stored_headers_within_limit (h : List (String × List String)) (maxBytes : Nat) (extra) (out : List (String × String))
    (hpos : maxBytes ≠ 0) (hc : copyHeaders h maxBytes extra = some out) : size out ≤ maxBytes :=
  (copyHeaders_some hc).elim (fun h0 => absurd h0.1 hpos) (·.2)

example : copyHeaders [("Authorization", ["Bearer x"]), ("X-A", ["1", "2"]), ("COOKIE", ["c"]), ("x-b", ["v"])] 100 [] =
    some [("X-A", "1,2"), ("X-B", "v")] := by decide +kernel

end Hk.Fidelity
