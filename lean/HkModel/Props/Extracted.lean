import HkModel.Generated.Caps
import HkModel.Generated.SqlGuards
import HkModel.Model.Queue
/-!
  Theorems over the facts REGENERATED from /repo on every run (go/ast extractor): the numeric caps and defaults
  the queue model uses are the ones in the Go source, and the SQL mutation statements of the durable stores carry
  the guards the lease/operator theorems rely on. A harmless rewrite of the Go code can break these syntactic facts
  (then the check reports `no-failing-input-found`); a real change of a cap or a dropped guard breaks them too.
-/
namespace Hk.Gen

def capOf (file fn ident guard : String) : Option Int :=
  (capFacts.find? (fun f => f.1 == file && f.2.1 == fn && f.2.2.1 == ident && f.2.2.2.1 == guard)).map (·.2.2.2.2)

theorem dequeue_caps_match_model :
    capOf "internal/queue/memory.go" "MemoryStore.Dequeue" "batch" ">100" = some 100 ∧
    capOf "internal/queue/memory.go" "MemoryStore.Dequeue" "batch" "<=0" = some 1 ∧
    capOf "internal/queue/memory.go" "MemoryStore.Dequeue" "leaseTTL" "<=0" = some 30000000000 ∧
    capOf "internal/queue/sqlite.go" "SQLiteStore.Dequeue" "batch" ">100" = some 100 ∧
    capOf "internal/queue/sqlite.go" "SQLiteStore.Dequeue" "batch" "<=0" = some 1 ∧
    capOf "internal/queue/sqlite.go" "SQLiteStore.Dequeue" "leaseTTL" "<=0" = some 30000000000 ∧
    Hk.effBatch 101 = 100 ∧ Hk.effBatch 0 = 1 ∧ Hk.effBatch (-5) = 1 ∧ Hk.effBatch 100 = 100 ∧ Hk.effTTL 0 = 30000000000 := by
  decide +kernel

theorem list_caps_match_model :
    (["MemoryStore.ListDead", "MemoryStore.ListMessages", "MemoryStore.filterManageCandidatesLocked"].all (fun fn =>
      capOf "internal/queue/memory.go" fn "limit" "<=0" == some 100 && capOf "internal/queue/memory.go" fn "limit" ">1000" == some 1000)) = true ∧
    (["SQLiteStore.ListDead", "SQLiteStore.ListMessages", "SQLiteStore.selectMessageIDsByFilter"].all (fun fn =>
      capOf "internal/queue/sqlite.go" fn "limit" "<=0" == some 100 && capOf "internal/queue/sqlite.go" fn "limit" ">1000" == some 1000)) = true ∧
    Hk.effLimit 0 = 100 ∧ Hk.effLimit 1001 = 1000 ∧ Hk.effLimit (-1) = 100 := by
  decide +kernel

/-- the SQLite lease sweep granularity the C05 bound speaks of, and the redirect hop limit of C16 -/
theorem named_constants :
    namedConsts.lookup "defaultSQLiteLeaseSweepInterval" = some 10000000 ∧
    namedConsts.lookup "checkRedirect.maxVia" = some 10 := by decide +kernel

def stmtsOf (backend : String) (fns : List String) : List SqlStmt :=
  sqlStmts.filter (fun s => s.backend == backend && fns.contains s.fn)

/-- **SQL guard discipline (SQLite)**: every single-lease mutation is fenced by state, lease id and lease expiry;
    every operator mutation by state and id list; the expiry sweep by state and lease expiry; prune and eviction by
    state (so never a leased row). -/
theorem sqlite_guards :
    (stmtsOf "sqlite" ["Ack", "Nack", "Extend", "MarkDead"]).length = 5 ∧
    (stmtsOf "sqlite" ["Ack", "Nack", "Extend", "MarkDead"]).all (fun s => s.gState && s.gLeaseId && s.gLeaseUntil) = true ∧
    (stmtsOf "sqlite" ["CancelMessages", "RequeueMessages", "ResumeMessages", "RequeueDead", "DeleteDead"]).length = 5 ∧
    (stmtsOf "sqlite" ["CancelMessages", "RequeueMessages", "ResumeMessages", "RequeueDead", "DeleteDead"]).all (fun s => s.gState && s.gIdIn) = true ∧
    (stmtsOf "sqlite" ["requeueExpiredLeases"]).all (fun s => s.gState && s.gLeaseUntil) = true ∧
    (stmtsOf "sqlite" ["requeueExpiredLeases"]).length = 1 ∧
    (stmtsOf "sqlite" ["maybePrune", "dropOldestQueued"]).all (fun s => s.gState) = true ∧
    (stmtsOf "sqlite" ["maybePrune", "dropOldestQueued"]).length = 5 := by
  decide +kernel

/-- PostgreSQL cannot be executed in this sandbox: only this syntactic discipline is checked for it
    (lease and operator mutations are state-guarded and keyed by id). -/
theorem postgres_guards :
    (stmtsOf "postgres" ["Ack", "Nack", "Extend", "MarkDead", "CancelMessages", "RequeueMessages", "ResumeMessages",
      "RequeueDead", "DeleteDead"]).all (fun s => s.gState && s.gIdIn) = true := by
  decide +kernel

end Hk.Gen
