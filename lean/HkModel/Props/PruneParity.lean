/-
  Retention prune rules of the durable stores, read off their SQL (C13 "and Postgres"; C02 "a retention prune it is eligible for").

  PostgreSQL cannot be executed in this sandbox. What can be done is to read its statements and compare them with SQLite's,
  which *are* executed against the model on every run. This file does that for the age-based retention DELETEs of
  `maybePrune` (`Generated/PruneRules.lean`, regenerated on every run).
-/
import HkModel.Model.Queue
import HkModel.Generated.PruneRules

namespace Hk.PruneParity

abbrev Rule := String × String × String   -- state, column, comparator

def rulesOf (backend : String) : List Rule :=
  (Gen.pruneRules.filter (·.1 == backend)).map (·.2)

def colOf (col : String) (m : Msg) : Option Int :=
  if col == "received_at" then some m.recv else if col == "next_run_at" then some m.next else none

def cmpOf (cmp : String) (a b : Int) : Bool :=
  if cmp == "<=" then decide (a ≤ b) else if cmp == "<" then decide (a < b) else false

def retOf (c : Cfg) (st : String) : Int :=
  if st == "queued" then c.retention else if st == "dead" then c.dlqRet else if st == "delivered" then c.deliveredRet else 0

/-- a message is deleted by the age-based statements of a rule set -/
def eligibleBy (rules : List Rule) (c : Cfg) (now : Int) (m : Msg) : Bool :=
  rules.any fun (st, col, cmp) =>
    m.st.toString == st && decide (retOf c st > 0) &&
      (match colOf col m with
       | some v => cmpOf cmp v (now - retOf c st)
       | none => false)

theorem sqlite_prune_rules_are_the_models (c : Cfg) (now : Int) (m : Msg) :
    eligibleBy (rulesOf "sqlite") c now m = ageEligible c now m := by
  -- `simp` unfolds `Gen.pruneRules` itself, so the proof holds no copy of the rules; the `show` turns the `==` of `St` (the
  -- `BEq` of its derived `DecidableEq`) into `decide (_ = _)`, which `simp` then settles
  cases hm : m.st <;>
    simp [eligibleBy, rulesOf, Gen.pruneRules, ageEligible, hm, St.toString, retOf, colOf, cmpOf,
      show ∀ a b : St, (a == b) = decide (a = b) from fun _ _ => rfl]

/-- differences of a backend's rules from SQLite's: (state, what, sqlite has, backend has) -/
def diffs (backend : String) : List (String × String × String × String) :=
  (rulesOf "sqlite").flatMap fun (st, col, cmp) =>
    match (rulesOf backend).find? (·.1 == st) with
    | none => [(st, "missing", col ++ " " ++ cmp, "")]
    | some (_, col', cmp') =>
      (if col' != col then [(st, "column", col, col')] else []) ++ (if cmp' != cmp then [(st, "cmp", cmp, cmp')] else [])

/-- the differences between PostgreSQL's and SQLite's age rules are exactly these — the known finding `postgres:prune:*`
    (DESIGN §5): delivered messages are aged by `received_at`, not by the time of delivery, and every cutoff is exclusive;
    any other difference, or the disappearance of one, breaks this theorem -/
theorem postgres_prune_differences :
    diffs "postgres" = [("queued", "cmp", "<=", "<"), ("delivered", "column", "next_run_at", "received_at"),
                        ("delivered", "cmp", "<=", "<"), ("dead", "cmp", "<=", "<")] ∧
    (rulesOf "postgres").length = (rulesOf "sqlite").length := by decide +kernel

def sampleMsg (st : St) (recv next : Int) : Msg :=
  { id := "m", route := "/r", target := "pull", st := st, recv := recv, next := next,
    attempt := 1, payload := "", headers := "", trace := "", reason := "", lease := "", luntil := 0 }

/-- what the column difference means: received two days ago, delivered a minute ago, `delivered_retention 24h` — SQLite and
    the memory store keep it for another day, PostgreSQL deletes it at the next prune (times in seconds) -/
theorem pinned_postgres_prunes_fresh_delivery :
    eligibleBy (rulesOf "postgres") { deliveredRet := 86400 } 864000 (sampleMsg .delivered (864000 - 172800) (864000 - 60)) = true ∧
    ageEligible { deliveredRet := 86400 } 864000 (sampleMsg .delivered (864000 - 172800) (864000 - 60)) = false := by decide +kernel

/-- what the comparator difference means: a message whose age is exactly `max_age` is pruned by SQLite / memory and kept by
    PostgreSQL -/
theorem pinned_postgres_keeps_boundary :
    eligibleBy (rulesOf "postgres") { retention := 100 } 1000 (sampleMsg .queued 900 900) = false ∧
    ageEligible { retention := 100 } 1000 (sampleMsg .queued 900 900) = true := by decide +kernel

end Hk.PruneParity
