/-
  `classifyDelivery` as written is the model's `classify` (C06) — by translation, for every delivery result.

  `Model/Dispatch.classify` is hand-written and tied to the code by an exhaustive status table run through the real function.
  This file adds the other kind of tie for the same function: the extractor turns the body of
  `PushDispatcher.classifyDelivery` into a little straight-line program (`Generated/ClassifyTree.lean`: if / else / endif with
  the condition's source text, assignments to the outcome and the dead reason, `recordAttempt` calls, returns with the kind of
  lease action), `interp` below runs that program on the four facts the conditions read — is the result a success, is it
  retryable, is the attempt number within `retry.max`, is the error a policy denial — and the theorems say, for **every**
  combination:

  * `code_classify_is_model` — the action the program returns is `classify`'s, and
  * `code_records_every_attempt` — before it returns, the program has called `recordAttempt` after its last write to the
    attempt's outcome, and the outcome recorded matches the action (acked / retry / dead + the reason): "every attempt is
    recorded with its outcome".

  A condition the interpreter does not know, a return of another shape, a new branch: `interp` answers `none` and the
  theorems fail — the function no longer has the shape that was translated.
-/
import HkModel.Model.Dispatch
import HkModel.Generated.ClassifyTree

namespace Hk.ClassifyTree
open Hk.Dispatch

/-- the facts the conditions of `classifyDelivery` read -/
structure Facts where
  success : Bool        -- isSuccess(res)
  retryable : Bool      -- shouldRetry(res)
  within : Bool         -- env.Attempt <= target.Retry.Max
  denied : Bool         -- errors.Is(res.Err, ErrPolicyDenied)
  deriving DecidableEq, Repr

/-- conditions by their source text; `none` = unknown to this translation -/
def cond (f : Facts) (shouldRetryVar : Option Bool) (c : String) : Option Bool :=
  if c == "isSuccess(res)" then some f.success
  else if c == "shouldRetry && env.Attempt <= target.Retry.Max" then shouldRetryVar.map (· && f.within)
  else if c == "errors.Is(res.Err, ErrPolicyDenied)" then some f.denied
  else if c == "shouldRetry" then shouldRetryVar
  -- conditions that do not bear on the decision (defaults, logging, copying the error text): either way
  else if c == "logger == nil" || c == "timeout <= 0" || c == "res.Err != nil" then some false
  else none

structure St where
  shouldRetry : Option Bool := none
  reason : String := ""
  outcome : String := ""
  deadReason : String := ""
  recordedOutcome : Option (String × String) := none   -- (outcome, dead reason) at the last recordAttempt
  delivered : Bool := false
  deriving Repr

/-- skip to the matching `else` (if `stopAtElse`) or `endif` of the `if` just entered -/
def skip (stopAtElse : Bool) : Nat → List (String × String) → List (String × String)
  | _, [] => []
  | depth, (k, _) :: rest =>
    if k == "if" then skip stopAtElse (depth + 1) rest
    else if k == "endif" then (if depth == 0 then rest else skip stopAtElse (depth - 1) rest)
    else if k == "else" && depth == 0 && stopAtElse then rest
    else skip stopAtElse depth rest

structure Out where
  action : String            -- kind of the lease action returned (+ its delay / reason fields)
  recorded : Option (String × String)
  reason : String
  delivered : Bool
  deriving DecidableEq, Repr

def interp (f : Facts) : Nat → St → List (String × String) → Option Out
  | 0, _, _ => none
  | _, _, [] => none
  | fuel + 1, s, (k, v) :: rest =>
    if k == "if" then
      match cond f s.shouldRetry v with
      | none => none
      | some true => interp f fuel s rest
      | some false => interp f fuel s (skip true 0 rest)
    else if k == "else" then interp f fuel s (skip false 0 rest)     -- reached the end of a taken branch
    else if k == "endif" then interp f fuel s rest
    else if k == "call" then
      if v == "Deliver" then interp f fuel { s with delivered := true } rest
      else if v == "recordAttempt" then interp f fuel { s with recordedOutcome := some (s.outcome, s.deadReason) } rest
      else none
    else if k == "shouldRetry" then
      if v == "shouldRetry(res)" then interp f fuel { s with shouldRetry := some f.retryable } rest else none
    else if k == "delay" then interp f fuel s rest
    else if k == "reason" then interp f fuel { s with reason := v, recordedOutcome := s.recordedOutcome } rest
    else if k == "outcome" then interp f fuel { s with outcome := v, recordedOutcome := none } rest
    else if k == "dead_reason" then
      if v == "reason" then interp f fuel { s with deadReason := s.reason, recordedOutcome := none } rest else none
    else if k == "return" then some { action := v, recorded := s.recordedOutcome, reason := s.reason, delivered := s.delivered }
    else none

def run (f : Facts) : Option Out := interp f (Gen.classifyEvents.length + 1) {} Gen.classifyEvents

def spec (f : Facts) : Act :=
  if f.success then .ack
  else if f.retryable && f.within then .retry
  else if f.denied then .dead "policy_denied"
  else if f.retryable then .dead "max_retries"
  else .dead "no_retry"

theorem spec_is_classify (r : Res) (attempt max : Int) :
    spec { success := isSuccess r, retryable := shouldRetry r, within := decide (attempt ≤ max), denied := (r == .policyDenied) }
      = classify r attempt max := rfl

/-- how an action and a recorded outcome look in the program's terms -/
def actionText : Act → String
  | .ack => "leaseActionAck leaseID=env.LeaseID"
  | .retry => "leaseActionNack leaseID=env.LeaseID delay=delay"
  | .dead _ => "leaseActionMarkDead leaseID=env.LeaseID reason=reason"

def recordText : Act → String × String
  | .ack => ("queue.AttemptOutcomeAcked", "")
  | .retry => ("queue.AttemptOutcomeRetry", "")
  | .dead r => ("queue.AttemptOutcomeDead", "\"" ++ r ++ "\"")

def allFacts : List Facts :=
  [true, false].flatMap fun a => [true, false].flatMap fun b => [true, false].flatMap fun c => [true, false].map fun d =>
    { success := a, retryable := b, within := c, denied := d }

theorem allFacts_complete (f : Facts) : f ∈ allFacts := by
  cases f with | mk a b c d => revert a b c d; decide +kernel

/-- what the program is to return when the model decides `a`; the dead reason is the one the program carries in `reason` -/
def out (a : Act) : Out :=
  { action := actionText a, recorded := some (recordText a), reason := (recordText a).2, delivered := true }

theorem run_facts : allFacts.all (fun f => run f == some (out (spec f))) = true := by decide +kernel

theorem run_eq (f : Facts) : run f = some (out (spec f)) :=
  eq_of_beq (List.all_eq_true.mp run_facts f (allFacts_complete f))

theorem code_classify_is_model (r : Res) (attempt max : Int) :
    (run { success := isSuccess r, retryable := shouldRetry r, within := decide (attempt ≤ max), denied := (r == .policyDenied) }).map (·.action)
      = some (actionText (classify r attempt max)) := by
  rw [← spec_is_classify, run_eq]; rfl

/-- **every attempt is recorded with its outcome**: a write to the outcome or the dead reason clears `recordedOutcome`, so
    `recorded = some _` says that the last `recordAttempt` came after the last such write -/
theorem code_records_every_attempt :
    allFacts.all (fun f =>
      match run f with
      | some o => o.delivered && o.recorded == some (recordText (spec f))
      | none => false) = true :=
  List.all_eq_true.mpr fun f _ => by rw [run_eq]; exact beq_self_eq_true _

/-- a program that returns before recording, or with an unknown condition, is rejected -/
example : interp { success := true, retryable := false, within := true, denied := false } 9 {}
    [("call", "Deliver"), ("if", "isSuccess(res)"), ("outcome", "queue.AttemptOutcomeAcked"), ("return", "leaseActionAck leaseID=env.LeaseID")]
    = some { action := "leaseActionAck leaseID=env.LeaseID", recorded := none, reason := "", delivered := true } := by decide +kernel
example : interp { success := true, retryable := false, within := true, denied := false } 9 {} [("if", "res.StatusCode == 204")] = none := by decide +kernel

end Hk.ClassifyTree
