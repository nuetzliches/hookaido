import HkModel.Model.Lex
/-!
  C19 — config lexer / value-quoting round trip, for all inputs: whatever `formatValue` writes for a value the lexer can
  produce lexes back to exactly one token with exactly that text.

  The lexer is reasoned about through the relations `Step` and `Lexes`; fuel is dealt with once, in `lexAux_fuel` and
  `lex_cons`.
-/
namespace Hk.Lex

theorem isDelim_eq_false_iff {c : Char} :
    isDelim c = false ↔ isSpace c = false ∧ c ≠ '{' ∧ c ≠ '}' ∧ c ≠ '"' ∧ c ≠ '#' := by
  simp [isDelim, and_assoc]

theorem scanPlaceholder_spec {cs p r : List Char} (h : scanPlaceholder cs = some (p, r)) :
    ∃ body, p = body ++ ['}'] ∧ cs = body ++ '}' :: r ∧ ∀ c ∈ body, isSpace c = false ∧ c ≠ '{' ∧ c ≠ '}' := by
  fun_induction scanPlaceholder cs generalizing p r <;> cases h
  next hc => exact ⟨[], rfl, by rw [beq_iff_eq.mp hc]; rfl, nofun⟩
  next c _ h1 h2 _ _ hs ih =>
    obtain ⟨body, rfl, rfl, hb⟩ := ih hs
    exact ⟨c :: body, rfl, rfl, List.forall_mem_cons.mpr ⟨by simpa [and_assoc] using And.intro h1 h2, hb⟩⟩

theorem scanPlaceholder_body : ∀ (body r : List Char),
    (∀ c ∈ body, isSpace c = false ∧ c ≠ '{' ∧ c ≠ '}') →
    scanPlaceholder (body ++ '}' :: r) = some (body ++ ['}'], r)
  | [], r, _ => by simp [scanPlaceholder, isSpace]
  | c :: body, r, h => by
    obtain ⟨hc, hb⟩ := List.forall_mem_cons.mp h
    simp [scanPlaceholder, hc.1, hc.2.1, hc.2.2, scanPlaceholder_body body r hb]

theorem isPrefixOf_append_stop {x : Char} : ∀ (l b r : List Char), x ∉ l →
    l.isPrefixOf (b ++ x :: r) = l.isPrefixOf b
  | [], _, _, _ => by simp
  | a :: l, [], r, hx => by
    have : a ≠ x := fun e => hx (e ▸ List.mem_cons_self ..)
    simp [List.isPrefixOf_cons_cons, this]
  | a :: l, b0 :: b, r, hx => by
    simp [List.isPrefixOf_cons_cons, isPrefixOf_append_stop l b r (fun hm => hx (List.mem_cons_of_mem _ hm))]

/-- neither `}` nor a space occurs in the three prefixes -/
theorem isPlaceholderPrefix_append_stop {x : Char} (hx : x = '}' ∨ isSpace x = true) (b r : List Char) :
    isPlaceholderPrefix (b ++ x :: r) = isPlaceholderPrefix b := by
  have key (l : List Char) (hl : ∀ c ∈ l, c ≠ '}' ∧ isSpace c = false) :
      l.isPrefixOf (b ++ x :: r) = l.isPrefixOf b :=
    isPrefixOf_append_stop l b r fun hm => by
      obtain ⟨h1, h2⟩ := hl x hm
      rcases hx with h | h
      · exact h1 h
      · rw [h] at h2; cases h2
  unfold isPlaceholderPrefix
  rw [key _ (by decide), key _ (by decide), key _ (by decide)]

theorem readPlaceholder_eq_some_iff (cs p r : List Char) :
    readPlaceholder cs = some (p, r) ↔
      isPlaceholderPrefix cs = true ∧ ∃ body, p = '{' :: body ++ ['}'] ∧ cs = '{' :: body ++ '}' :: r ∧
        ∀ c ∈ body, isSpace c = false ∧ c ≠ '{' ∧ c ≠ '}' := by
  unfold readPlaceholder
  constructor
  · intro h
    split at h
    next hp =>
      split at h
      · cases h
      next c rest =>
        split at h <;> cases h
        next hs =>
          obtain ⟨body, rfl, rfl, hb⟩ := scanPlaceholder_spec hs
          obtain rfl : '{' = c := by
            simp only [isPlaceholderPrefix, List.isPrefixOf_cons_cons, Bool.or_eq_true, Bool.and_eq_true,
              beq_iff_eq] at hp
            rcases hp with (h | h) | h <;> exact h.1
          exact ⟨hp, body, rfl, rfl, hb⟩
    · cases h
  · rintro ⟨hp, body, rfl, rfl, hb⟩
    rw [if_pos hp]
    simp only [List.cons_append]
    rw [scanPlaceholder_body body r hb]

theorem readPlaceholder_self {cs p r : List Char} (h : readPlaceholder cs = some (p, r)) :
    readPlaceholder p = some (p, []) := by
  obtain ⟨hp, body, rfl, rfl, hb⟩ := (readPlaceholder_eq_some_iff cs p r).mp h
  refine (readPlaceholder_eq_some_iff _ _ _).mpr ⟨?_, body, rfl, rfl, hb⟩
  rw [isPlaceholderPrefix_append_stop (.inl rfl)] at hp ⊢
  exact hp

theorem readString_quote (cs : List Char) : readString ('"' :: cs) = .ok ([], cs) := by
  unfold readString; simp

theorem readString_escape (e : Char) {cs s r : List Char} (h : readString cs = .ok (s, r)) :
    readString ('\\' :: e :: cs) = .ok (unescape e :: s, r) := by
  unfold readString; simp [h]

theorem readString_char {c : Char} {cs s r : List Char} (h1 : c ≠ '\n') (h2 : c ≠ '"') (h3 : c ≠ '\\')
    (h : readString cs = .ok (s, r)) : readString (c :: cs) = .ok (c :: s, r) := by
  unfold readString; simp [*]

theorem readString_suffix {cs s r : List Char} (h : readString cs = .ok (s, r)) : r <:+ cs := by
  fun_induction readString cs generalizing s r <;> cases h
  next => exact List.suffix_cons ..
  next hr ih => exact (ih hr).trans ((List.suffix_cons ..).trans (List.suffix_cons ..))
  next hr ih => exact (ih hr).trans (List.suffix_cons ..)

theorem readString_append (x : List Char) {cs s r : List Char} (h : readString cs = .ok (s, r)) :
    readString (cs ++ x) = .ok (s, r ++ x) := by
  fun_induction readString cs generalizing s r <;> cases h
  next hq => rw [beq_iff_eq.mp hq]; exact readString_quote _
  next hb _ _ _ _ hr ih => rw [beq_iff_eq.mp hb]; exact readString_escape _ (ih hr)
  next h1 h2 h3 _ _ hr ih =>
    exact readString_char (by simpa using h1) (by simpa using h2) (by simpa using h3) (ih hr)

theorem readString_escapeChar (c : Char) {rest s r : List Char} (h : readString rest = .ok (s, r)) :
    readString (escapeChar c ++ rest) = .ok (c :: s, r) := by
  by_cases h1 : c = '\\'
  · subst h1; exact readString_escape '\\' h
  by_cases h2 : c = '"'
  · subst h2; exact readString_escape '"' h
  by_cases h3 : c = '\n'
  · subst h3; exact readString_escape 'n' h
  by_cases h4 : c = '\t'
  · subst h4; exact readString_escape 't' h
  by_cases h5 : c = '\r'
  · subst h5; exact readString_escape 'r' h
  simp only [escapeChar, beq_iff_eq, h1, h2, h3, h4, h5]
  exact readString_char h3 h2 h1 h

theorem readString_escapeAll (rest : List Char) : ∀ v : List Char,
    readString (escapeAll v ++ '"' :: rest) = .ok (v, rest)
  | [] => readString_quote rest
  | c :: v => by
    rw [escapeAll, List.append_assoc]
    exact readString_escapeChar c (readString_escapeAll rest v)

/-- The seven ways one `step` succeeds: `Step c cs t r ↔ step c cs = .ok (t, r)` (`step_eq_ok_iff`). -/
inductive Step : Char → List Char → Option Tok → List Char → Prop
  | space {c cs} : isSpace c = true → Step c cs none cs
  | placeholder {cs p r} : readPlaceholder ('{' :: cs) = some (p, r) → Step '{' cs (some (.ident p)) r
  | lbrace {cs} : readPlaceholder ('{' :: cs) = none → Step '{' cs (some .lbrace) cs
  | comment {cs} : Step '#' cs (some (.comment ('#' :: cs.takeWhile (· != '\n')))) (cs.dropWhile (· != '\n'))
  | rbrace {cs} : Step '}' cs (some .rbrace) cs
  | str {cs s r} : readString cs = .ok (s, r) → Step '"' cs (some (.str s)) r
  | ident {c cs} : isDelim c = false →
      Step c cs (some (.ident (c :: cs.takeWhile (fun x => !isDelim x)))) (cs.dropWhile (fun x => !isDelim x))

theorem Step.step_eq {c : Char} {cs r : List Char} {t : Option Tok} (h : Step c cs t r) : step c cs = .ok (t, r) := by
  cases h with
  | space hc => simp [step, hc]
  | placeholder hp => simp [step, isSpace, hp]
  | lbrace hp => simp [step, isSpace, hp]
  | comment => simp [step, isSpace]
  | rbrace => simp [step, isSpace]
  | str hs => simp [step, isSpace, hs]
  | ident hc =>
    obtain ⟨h1, h2, h3, h4, h5⟩ := isDelim_eq_false_iff.mp hc
    simp [step, h1, h2, h3, h4, h5]

theorem step_eq_ok_iff {c : Char} {cs r : List Char} {t : Option Tok} : step c cs = .ok (t, r) ↔ Step c cs t r := by
  refine ⟨fun h => ?_, Step.step_eq⟩
  -- whatever `c` is, one of the constructors applies, and `Step.step_eq` says that its `t`, `r` are those of `h`
  suffices ∃ t' r', Step c cs t' r' by
    obtain ⟨t', r', hs⟩ := this
    cases hs.step_eq.symm.trans h
    exact hs
  by_cases h1 : isSpace c = true
  · exact ⟨_, _, .space h1⟩
  by_cases h2 : c = '{'
  · subst h2
    cases hp : readPlaceholder ('{' :: cs) with
    | none => exact ⟨_, _, .lbrace hp⟩
    | some pr => exact ⟨_, _, .placeholder hp⟩
  by_cases h3 : c = '#'
  · exact h3 ▸ ⟨_, _, .comment⟩
  by_cases h4 : c = '}'
  · exact h4 ▸ ⟨_, _, .rbrace⟩
  by_cases h5 : c = '"'
  · subst h5
    cases hs : readString cs with
    | ok sr => exact ⟨_, _, .str hs⟩
    | error e => simp [step, isSpace, hs] at h
  · exact ⟨_, _, .ident (by simp [isDelim, *])⟩

theorem Step.suffix {c : Char} {cs r : List Char} {t : Option Tok} (h : Step c cs t r) : r <:+ cs := by
  cases h with
  | placeholder hp =>
    obtain ⟨-, body, -, hcs, -⟩ := (readPlaceholder_eq_some_iff ..).mp hp
    cases hcs
    exact ⟨body ++ ['}'], by simp⟩
  | str hs => exact readString_suffix hs
  | comment | ident => exact List.dropWhile_suffix _
  | space | lbrace | rbrace => exact List.suffix_rfl

/-- the defining equation of `lexAux`; proved through `eq_def` because the equation `lexAux.eq_3` that `simp [lexAux]`
    would generate is slow to check -/
theorem lexAux_succ_cons (n : Nat) (c : Char) (cs : List Char) :
    lexAux (n + 1) (c :: cs) = match step c cs with
      | .error e => .error e
      | .ok (t, r) => consTok t (lexAux n r) := by
  rw [lexAux.eq_def]; rfl

theorem lexAux_fuel : ∀ (n m : Nat) (cs : List Char), cs.length < n → cs.length < m → lexAux n cs = lexAux m cs
  | n, m, [], _, _ => by
    cases n <;> cases m <;> rfl
  | 0, _, _ :: _, hn, _ => by simp at hn
  | _, 0, _ :: _, _, hm => by simp at hm
  | n + 1, m + 1, c :: cs, hn, hm => by
    rw [lexAux_succ_cons, lexAux_succ_cons]
    cases hs : step c cs with
    | error e => rfl
    | ok tr =>
      have hl := (step_eq_ok_iff.mp hs).suffix.length_le
      simp only [List.length_cons] at hn hm
      simp only []     -- reduces the `match` on the pair `tr`
      rw [lexAux_fuel n m tr.2 (by omega) (by omega)]

theorem lex_nil : lex [] = .ok [] := rfl

theorem lex_cons (c : Char) (cs : List Char) :
    lex (c :: cs) = match step c cs with
      | .error e => .error e
      | .ok (t, r) => consTok t (lex r) := by
  simp only [lex, List.length_cons, lexAux_succ_cons]
  cases hs : step c cs with
  | error e => rfl
  | ok tr =>
    have hl := (step_eq_ok_iff.mp hs).suffix.length_le
    simp only []
    rw [lexAux_fuel (cs.length + 1) (tr.2.length + 1) tr.2 (by omega) (by omega)]

/-- A successful run of the lexer: `Lexes src toks ↔ lex src = .ok toks` (`lex_eq_ok_iff`). -/
inductive Lexes : List Char → List Tok → Prop
  | nil : Lexes [] []
  | skip {c cs r ts} : Step c cs none r → Lexes r ts → Lexes (c :: cs) ts
  | tok {c cs t r ts} : Step c cs (some t) r → Lexes r ts → Lexes (c :: cs) (t :: ts)

theorem Lexes.of_lex : ∀ {src : List Char} {toks : List Tok}, lex src = .ok toks → Lexes src toks
  | [], _, h => by cases h; exact .nil
  | c :: cs, toks, h => by
    rw [lex_cons] at h
    split at h
    · cases h
    next t r hs =>
      have hs := step_eq_ok_iff.mp hs
      have := hs.suffix.length_le
      cases hr : lex r with
      | error e => rw [hr] at h; cases h
      | ok ts =>
        rw [hr] at h
        cases h
        cases t with
        | none => exact .skip hs (of_lex hr)
        | some t => exact .tok hs (of_lex hr)
termination_by src => src.length
decreasing_by all_goals simp_wf; omega

theorem lex_eq_ok_iff {src : List Char} {toks : List Tok} : lex src = .ok toks ↔ Lexes src toks := by
  refine ⟨Lexes.of_lex, fun h => ?_⟩
  induction h with
  | nil => exact lex_nil
  | skip hs _ ih => simp only [lex_cons, hs.step_eq, ih, consTok]
  | tok hs _ ih => simp only [lex_cons, hs.step_eq, ih, consTok]

theorem quote_lex_roundtrip (v : List Char) : lex (quoteString v) = .ok [.str v] :=
  lex_eq_ok_iff.mpr (.tok (.str (readString_escapeAll [] v)) .nil)

theorem unquoted_lex_roundtrip (v : List Char) (hne : v ≠ []) (h : ∀ c ∈ v, isDelim c = false) :
    lex v = .ok [.ident v] := by
  cases v with
  | nil => exact absurd rfl hne
  | cons c cs =>
    obtain ⟨hc, hcs⟩ := List.forall_mem_cons.mp h
    -- `cs ++ []`: the form `takeWhile_append_of_pos` / `dropWhile_append_of_pos` rewrite, all of `cs` passing the test
    have hs := Step.ident (cs := cs ++ []) hc
    rw [List.takeWhile_append_of_pos (by simpa using hcs), List.dropWhile_append_of_pos (by simpa using hcs)] at hs
    simpa using lex_eq_ok_iff.mpr (.tok hs .nil)

theorem lex_of_readPlaceholder_self {v : List Char} (h : readPlaceholder v = some (v, [])) :
    lex v = .ok [.ident v] := by
  obtain ⟨-, body, hv, -, -⟩ := (readPlaceholder_eq_some_iff _ _ _).mp h
  subst hv
  exact lex_eq_ok_iff.mpr (.tok (.placeholder h) .nil)

theorem placeholder_lex_roundtrip (body : List Char)
    (hpre : isPlaceholderPrefix ('{' :: body ++ ['}']) = true)
    (hbody : ∀ c ∈ body, isSpace c = false ∧ c ≠ '{' ∧ c ≠ '}') :
    lex ('{' :: body ++ ['}']) = .ok [.ident ('{' :: body ++ ['}'])] :=
  lex_of_readPlaceholder_self ((readPlaceholder_eq_some_iff _ _ _).mpr ⟨hpre, body, rfl, rfl, hbody⟩)

/-- the two shapes of an identifier token (`lexer_ident_form`) -/
def IdentForm (v : List Char) : Prop :=
  (v ≠ [] ∧ ∀ c ∈ v, isDelim c = false) ∨ readPlaceholder v = some (v, [])

theorem lex_of_identForm {v : List Char} (h : IdentForm v) : lex v = .ok [.ident v] := by
  rcases h with ⟨hne, hd⟩ | hp
  · exact unquoted_lex_roundtrip v hne hd
  · exact lex_of_readPlaceholder_self hp

theorem Step.identForm {c : Char} {cs v r : List Char} (h : Step c cs (some (.ident v)) r) : IdentForm v := by
  cases h with
  | placeholder hp => exact .inr (readPlaceholder_self hp)
  | ident hc =>
    refine .inl ⟨List.cons_ne_nil _ _, List.forall_mem_cons.mpr ⟨hc, fun x hx => ?_⟩⟩
    simpa using List.all_eq_true.mp List.all_takeWhile x hx

theorem lexer_ident_form {src : List Char} {toks : List Tok} {v : List Char}
    (h : lex src = .ok toks) (hm : Tok.ident v ∈ toks) : IdentForm v := by
  replace h := lex_eq_ok_iff.mp h
  induction h with
  | nil => cases hm
  | skip _ _ ih => exact ih hm
  | tok hs _ ih =>
    rcases List.mem_cons.mp hm with rfl | hm
    · exact hs.identForm
    · exact ih hm

theorem lexer_ident_shape {src : List Char} {toks : List Tok} {v : List Char}
    (h : lex src = .ok toks) (hm : Tok.ident v ∈ toks) : lex v = .ok [.ident v] :=
  lex_of_identForm (lexer_ident_form h hm)

theorem lex_single_ident_iff (v : List Char) : lex v = .ok [.ident v] ↔ IdentForm v :=
  ⟨fun h => lexer_ident_form h (List.mem_singleton.mpr rfl), lex_of_identForm⟩

theorem prefix_lbrace_iff (v : List Char) : ['{'].isPrefixOf v = true ↔ ∃ t, v = '{' :: t := by
  cases v with
  | nil => simp
  | cons a t => simp [eq_comm (a := a)]

theorem brace_form_iff (v : List Char) :
    (['{'].isPrefixOf v && ['}'].isSuffixOf v) = true ↔ ∃ body, v = '{' :: body ++ ['}'] := by
  rw [Bool.and_eq_true, prefix_lbrace_iff, List.isSuffixOf_iff_suffix]
  constructor
  · rintro ⟨⟨t, rfl⟩, u, hu⟩
    cases u with
    | nil => simp at hu
    | cons a body => cases hu; exact ⟨body, rfl⟩
  · rintro ⟨body, rfl⟩
    exact ⟨⟨_, rfl⟩, '{' :: body, rfl⟩

theorem isUnquotedValueSafe_iff (v : List Char) :
    isUnquotedValueSafe v = true ↔
      ((∃ body, v = '{' :: body ++ ['}']) ∧ ∀ c ∈ v, isSpace c = false) ∨
      (v ≠ [] ∧ ∀ c ∈ v, isDelim c = false) := by
  cases v with
  | nil => simp [isUnquotedValueSafe]
  | cons a t =>
    -- `Bool.and_eq_true` only at the outer conjunction: the inner one is the left side of `brace_form_iff`
    simp only [isUnquotedValueSafe, List.isEmpty_cons, if_false, Bool.if_true_left,
      Bool.or_eq_true, decide_eq_true_eq, Bool.and_eq_true (_ && _), brace_form_iff, Bool.not_eq_true',
      List.any_eq_false, List.all_eq_true, Bool.not_eq_true, ne_eq, reduceCtorEq, not_false_eq_true, true_and]

theorem isUnquotedPathSafe_roundtrip (p : List Char) (h : isUnquotedPathSafe p = true) :
    lex p = .ok [.ident p] := by
  unfold isUnquotedPathSafe at h
  split at h
  · cases h
  next hc => exact unquoted_lex_roundtrip p (by rintro rfl; exact hc rfl) (by simpa using h)

/-- **the gap**: a value the formatter writes bare (`isUnquotedValueSafe`) although it is of brace form `{…}` and NOT a
    complete lexer placeholder (`{vars.X}`, `{x}`, `{}`, `{$a}}`, `{$a{b}`, …). -/
def isGap (v : List Char) : Bool := ['{'].isPrefixOf v && (readPlaceholder v != some (v, []))

theorem isGap_eq_true_iff {v : List Char} :
    isGap v = true ↔ (∃ t, v = '{' :: t) ∧ ¬ readPlaceholder v = some (v, []) := by
  simp only [isGap, Bool.and_eq_true, prefix_lbrace_iff, bne_iff_ne]

theorem identForm_iff_safe_not_gap {v : List Char} :
    IdentForm v ↔ isUnquotedValueSafe v = true ∧ isGap v = false := by
  rw [isUnquotedValueSafe_iff, ← Bool.not_eq_true, isGap_eq_true_iff]
  constructor
  · rintro (⟨hne, hd⟩ | hp)
    · refine ⟨.inr ⟨hne, hd⟩, ?_⟩
      rintro ⟨⟨t, rfl⟩, -⟩
      exact absurd (hd _ (List.mem_cons_self ..)) (by decide)
    · obtain ⟨-, body, hv, -, hb⟩ := (readPlaceholder_eq_some_iff _ _ _).mp hp
      refine ⟨.inl ⟨⟨body, hv⟩, ?_⟩, fun hg => hg.2 hp⟩
      rw [hv]
      simp only [List.cons_append, List.forall_mem_cons, List.forall_mem_append]
      exact ⟨by decide, fun c hc => (hb c hc).1, by decide⟩
  · rintro ⟨⟨⟨body, hv⟩, -⟩ | h, hg⟩
    · exact .inr (Classical.not_not.mp fun hp => hg ⟨⟨_, hv⟩, hp⟩)
    · exact .inl h

theorem isUnquotedValueSafe_of_identForm {v : List Char} (h : IdentForm v) : isUnquotedValueSafe v = true :=
  (identForm_iff_safe_not_gap.mp h).1

/-- the gap in syntactic terms (a space in the body is already excluded by `isUnquotedValueSafe`) -/
theorem isGap_brace_iff (body : List Char) :
    isGap ('{' :: body ++ ['}']) = true ↔
      ¬ (isPlaceholderPrefix ('{' :: body ++ ['}']) = true ∧ ∀ c ∈ body, isSpace c = false ∧ c ≠ '{' ∧ c ≠ '}') := by
  rw [isGap_eq_true_iff, readPlaceholder_eq_some_iff]
  constructor
  · intro h ⟨hp, hb⟩; exact h.2 ⟨hp, body, rfl, rfl, hb⟩
  · refine fun h => ⟨⟨_, rfl⟩, fun ⟨hp, body', hv, _, hb⟩ => ?_⟩
    cases List.append_cancel_right (List.cons.inj hv).2
    exact h ⟨hp, hb⟩

theorem Lexes.ne_nil {c : Char} {cs : List Char} {toks : List Tok} (h : Lexes (c :: cs) toks)
    (hc : isSpace c = false) : toks ≠ [] := by
  cases h with
  | skip hs _ => cases hs with | space hc' => rw [hc] at hc'; cases hc'
  | tok _ _ => exact List.cons_ne_nil _ _

/-- **the gap, exactly**: a value `isUnquotedValueSafe` accepts lexes back as the one identifier, or is in the gap, and
    then the lexer never returns a single token for it: it errors or splits it. -/
theorem unquoted_safe_gap (v : List Char) (h : isUnquotedValueSafe v = true) :
    (isGap v = false ∧ lex v = .ok [.ident v]) ∨
    (isGap v = true ∧ (∃ body, v = '{' :: body ++ ['}']) ∧ (∀ c ∈ v, isSpace c = false) ∧
      ∀ toks, lex v = .ok toks → 2 ≤ toks.length) := by
  cases hg : isGap v with
  | false => exact .inl ⟨rfl, lex_of_identForm (identForm_iff_safe_not_gap.mpr ⟨h, hg⟩)⟩
  | true =>
    rcases (isUnquotedValueSafe_iff v).mp h with ⟨⟨body, hv⟩, hns⟩ | hd
    · refine .inr ⟨rfl, ⟨body, hv⟩, hns, fun toks hl => ?_⟩
      obtain ⟨⟨t, rfl⟩, hp⟩ := isGap_eq_true_iff.mp hg
      -- the first step yields a token and leaves a non-empty, space-free rest, which yields another
      cases lex_eq_ok_iff.mp hl with
      | skip hs _ => cases hs with | space hc => cases hc
      | @tok _ _ _ r ts hs hr =>
        have hr0 : r ≠ [] := by
          cases hs with
          | placeholder hq =>
            rintro rfl
            obtain ⟨-, _, rfl, hcs, -⟩ := (readPlaceholder_eq_some_iff ..).mp hq
            exact hp (hcs ▸ hq)
          | lbrace _ => rintro rfl; cases body <;> cases hv
          | ident hc => exact absurd hc (by decide)
        obtain ⟨c2, r2, rfl⟩ := List.exists_cons_of_ne_nil hr0
        have hc2 := hns c2 (List.mem_cons_of_mem _ (hs.suffix.subset (List.mem_cons_self ..)))
        exact Nat.succ_le_succ (List.length_pos_iff.mpr (hr.ne_nil hc2))
    · rw [(identForm_iff_safe_not_gap.mp (.inl hd)).2] at hg
      cases hg

theorem unquoted_safe_roundtrip_iff (v : List Char) (h : isUnquotedValueSafe v = true) :
    lex v = .ok [.ident v] ↔ isGap v = false :=
  (lex_single_ident_iff v).trans (identForm_iff_safe_not_gap.trans (and_iff_right h))

theorem gap_not_roundtrip (v : List Char) (h : isUnquotedValueSafe v = true) (hg : isGap v = true) :
    lex v ≠ .ok [.ident v] :=
  mt (unquoted_safe_roundtrip_iff v h).mp (by simp [hg])

theorem gap_witness_x :
    isUnquotedValueSafe "{x}".toList = true ∧ lex "{x}".toList = .ok [.lbrace, .ident ['x'], .rbrace] := by
  decide

theorem gap_witness_vars :
    isUnquotedValueSafe "{vars.X}".toList = true ∧ isGap "{vars.X}".toList = true ∧
      lex "{vars.X}".toList = .ok [.lbrace, .ident "vars.X".toList, .rbrace] := by
  decide +kernel

theorem gap_witness_empty_braces :
    isUnquotedValueSafe "{}".toList = true ∧ lex "{}".toList = .ok [.lbrace, .rbrace] := by
  decide

/-- a brace-form value containing a quote is written bare and then fails to lex at all -/
theorem gap_witness_error :
    isUnquotedValueSafe "{a\"b}".toList = true ∧ lex "{a\"b}".toList = .error "unterminated string" := by
  decide +kernel

/-- the token a (value, quoted) pair came from -/
def valueTok (v : List Char) (quoted : Bool) : Tok := if quoted then .str v else .ident v

def Tok.text : Tok → List Char
  | .ident s => s
  | .str s => s
  | .lbrace => ['{']
  | .rbrace => ['}']
  | .comment s => s

theorem valueTok_text (v : List Char) (q : Bool) : (valueTok v q).text = v := by
  cases q <;> rfl

/-- **every value the lexer can produce survives `formatValue`** (`h`: a quoted value is any string, a bare value is
    the text of an identifier token). -/
theorem value_roundtrip (v : List Char) (quoted : Bool)
    (h : quoted = true ∨ lex v = .ok [.ident v]) :
    lex (formatValue v quoted) = .ok [valueTok v quoted] := by
  cases quoted with
  | true => exact quote_lex_roundtrip v
  | false =>
    have hl : lex v = .ok [.ident v] := h.resolve_left nofun
    have hs := isUnquotedValueSafe_of_identForm ((lex_single_ident_iff v).mp hl)
    simp only [formatValue, hs]
    exact hl

theorem value_roundtrip' (v : List Char) (quoted : Bool)
    (h : quoted = true ∨ lex v = .ok [.ident v]) :
    ∃ t, lex (formatValue v quoted) = .ok [t] ∧ (t = .str v ∨ t = .ident v) ∧ t.text = v := by
  refine ⟨valueTok v quoted, value_roundtrip v quoted h, ?_, valueTok_text v quoted⟩
  cases quoted
  · exact .inr rfl
  · exact .inl rfl

theorem formatValue_total (v : List Char) (quoted : Bool) :
    (∃ t, lex (formatValue v quoted) = .ok [t] ∧ t.text = v) ∨
    (quoted = false ∧ isUnquotedValueSafe v = true ∧ isGap v = true) := by
  cases quoted with
  | true => exact .inl ⟨.str v, quote_lex_roundtrip v, rfl⟩
  | false =>
    cases hs : isUnquotedValueSafe v with
    | false => exact .inl ⟨.str v, by simpa [formatValue, hs] using quote_lex_roundtrip v, rfl⟩
    | true =>
      rcases unquoted_safe_gap v hs with ⟨_, hl⟩ | ⟨hg, _⟩
      · exact .inl ⟨.ident v, by simpa [formatValue, hs] using hl, rfl⟩
      · exact .inr ⟨rfl, rfl, hg⟩

theorem takeWhile_dropWhile_append (p : Char → Bool) (y : List Char) :
    ∀ l : List Char, l.dropWhile p ≠ [] ∨ y.takeWhile p = [] →
      (l ++ y).takeWhile p = l.takeWhile p ∧ (l ++ y).dropWhile p = l.dropWhile p ++ y
  | [], h => by
    have hy : y.takeWhile p = [] := h.resolve_left (fun h => h rfl)
    have := List.takeWhile_append_dropWhile (p := p) (l := y)
    rw [hy] at this
    exact ⟨hy, this⟩
  | a :: l, h => by
    cases ha : p a
    · simp [ha]
    · rw [List.dropWhile_cons_of_pos ha] at h
      have ih := takeWhile_dropWhile_append p y l h
      simp [ha, ih.1, ih.2]

theorem scanPlaceholder_append {sep : Char} (hsep : isSpace sep = true) (b cs : List Char) :
    scanPlaceholder (cs ++ sep :: b) = (scanPlaceholder cs).map fun pr => (pr.1, pr.2 ++ sep :: b) := by
  fun_induction scanPlaceholder cs <;> simp [scanPlaceholder, *]

theorem readPlaceholder_append_sep {sep : Char} (hsep : isSpace sep = true) (b cs : List Char) :
    readPlaceholder (cs ++ sep :: b) = (readPlaceholder cs).map fun pr => (pr.1, pr.2 ++ sep :: b) := by
  unfold readPlaceholder
  rw [isPlaceholderPrefix_append_stop (.inr hsep)]
  split
  next hp =>
    cases cs with
    | nil => cases hp
    | cons c cs =>
      simp only [List.cons_append]
      rw [scanPlaceholder_append hsep]
      cases scanPlaceholder cs <;> rfl
  · rfl

/-- `hc`: a comment running to the end of the input would swallow a separator other than a newline -/
theorem Step.append_sep {sep : Char} (hsep : isSpace sep = true) (b : List Char)
    {c : Char} {cs r : List Char} {t : Option Tok} (h : Step c cs t r)
    (hc : sep = '\n' ∨ ∀ s, t = some (.comment s) → r ≠ []) :
    Step c (cs ++ sep :: b) t (r ++ sep :: b) := by
  cases h with
  | space hc' => exact .space hc'
  | placeholder hp => exact .placeholder (by rw [← List.cons_append, readPlaceholder_append_sep hsep, hp]; rfl)
  | lbrace hp => exact .lbrace (by rw [← List.cons_append, readPlaceholder_append_sep hsep, hp]; rfl)
  | rbrace => exact .rbrace
  | str hs => exact .str (readString_append _ hs)
  | comment =>
    have key := takeWhile_dropWhile_append (· != '\n') (sep :: b) cs
      (hc.symm.imp (fun h => h _ rfl) (fun h => by simp [h]))
    have := Step.comment (cs := cs ++ sep :: b)
    rwa [key.1, key.2] at this
  | ident hc' =>
    have key := takeWhile_dropWhile_append (fun x => !isDelim x) (sep :: b) cs
      (.inr (by simp [isDelim, hsep]))
    have := Step.ident (cs := cs ++ sep :: b) hc'
    rwa [key.1, key.2] at this

theorem Lexes.append_sep {sep : Char} (hsep : isSpace sep = true) {a b : List Char} {ta tb : List Tok}
    (ha : Lexes a ta) (hb : Lexes b tb) (hc : sep = '\n' ∨ ∀ s, ta.getLast? ≠ some (.comment s)) :
    Lexes (a ++ sep :: b) (ta ++ tb) := by
  induction ha with
  | nil => exact .skip (.space hsep) hb
  | skip hs _ ih => exact .skip (hs.append_sep hsep b (.inr nofun)) (ih hc)
  | @tok c cs t r ts hs hr ih =>
    -- a comment that leaves nothing (`r = []`) is the last token of `a`, which `hc` excludes
    refine .tok (hs.append_sep hsep b (hc.imp_right fun h s ht hr0 => ?_)) (ih (hc.imp_right fun h s hl => ?_))
    · subst hr0
      cases ht
      cases hr
      exact h s rfl
    · cases ts with
      | nil => cases hl
      | cons t2 ts2 => exact h s (List.getLast?_cons_cons.trans hl)

/-- **joining two lexable texts with a space character** (`' '`, tab, CR, newline); `hc`: a comment runs to the end of
    the line and would swallow the second text. -/
theorem lex_append_sep {sep : Char} (hsep : isSpace sep = true) {a b : List Char} {ta tb : List Tok}
    (ha : lex a = .ok ta) (hb : lex b = .ok tb) (hc : sep = '\n' ∨ ∀ s, ta.getLast? ≠ some (.comment s)) :
    lex (a ++ sep :: b) = .ok (ta ++ tb) :=
  lex_eq_ok_iff.mpr ((lex_eq_ok_iff.mp ha).append_sep hsep (lex_eq_ok_iff.mp hb) hc)

theorem lex_append_space (a b : List Char) (ta tb : List Tok) (ha : lex a = .ok ta) (hb : lex b = .ok tb)
    (hlast : ∀ s, ta.getLast? ≠ some (.comment s)) :
    lex (a ++ [' '] ++ b) = .ok (ta ++ tb) := by
  rw [List.append_assoc]
  exact lex_append_sep (by decide) ha hb (.inr hlast)

theorem lex_append_newline (a b : List Char) (ta tb : List Tok) (ha : lex a = .ok ta) (hb : lex b = .ok tb) :
    lex (a ++ ['\n'] ++ b) = .ok (ta ++ tb) := by
  rw [List.append_assoc]
  exact lex_append_sep (by decide) ha hb (.inl rfl)

/-- the side condition of `lex_append_space` is needed: a trailing comment swallows what follows a space -/
theorem lex_append_space_needs_condition :
    lex "#c".toList = .ok [.comment "#c".toList] ∧ lex "x".toList = .ok [.ident "x".toList] ∧
    lex ("#c".toList ++ [' '] ++ "x".toList) = .ok [.comment "#c x".toList] := by
  decide +kernel

theorem lex_intercalate {sep : Char} (hsep : isSpace sep = true) :
    ∀ ls : List (List Char × List Tok), (∀ l ∈ ls, lex l.1 = .ok l.2) →
      (sep = '\n' ∨ ∀ l ∈ ls, ∀ s, l.2.getLast? ≠ some (.comment s)) →
      lex (List.intercalate [sep] (ls.map (·.1))) = .ok (ls.map (·.2)).flatten
  | [], _, _ => rfl
  | [l], h, _ => by simpa using h l (List.mem_singleton.mpr rfl)
  | l :: l2 :: ls, h, hc => by
    obtain ⟨h1, h2⟩ := List.forall_mem_cons.mp h
    have ih := lex_intercalate hsep (l2 :: ls) h2 (hc.imp_right fun hc => (List.forall_mem_cons.mp hc).2)
    rw [List.map_cons, List.map_cons, List.intercalate_cons_cons, List.append_assoc, ← List.map_cons]
    exact lex_append_sep hsep h1 ih (hc.imp_right fun hc => hc l (List.mem_cons_self ..))

/-- a (value, quoted) pair the lexer can produce -/
def ValueOk (w : List Char × Bool) : Prop := w.2 = true ∨ lex w.1 = .ok [.ident w.1]

theorem words_roundtrip_sep {sep : Char} (hsep : isSpace sep = true) (ws : List (List Char × Bool))
    (h : ∀ w ∈ ws, ValueOk w) :
    lex (List.intercalate [sep] (ws.map (fun w => formatValue w.1 w.2))) = .ok (ws.map (fun w => valueTok w.1 w.2)) := by
  have := lex_intercalate hsep (ws.map fun w => (formatValue w.1 w.2, [valueTok w.1 w.2])) ?_ (.inr ?_)
  · simpa [Function.comp_def, ← List.flatMap_def, ← List.map_eq_flatMap] using this
  · simp only [List.forall_mem_map]
    exact fun w hw => value_roundtrip w.1 w.2 (h w hw)
  · simp only [List.forall_mem_map]
    intro w _ s
    cases w.2 <;> simp [valueTok]

/-- **one directive line**: the words `formatValue` writes, joined by single spaces. -/
theorem words_roundtrip (ws : List (List Char × Bool)) (h : ∀ w ∈ ws, ValueOk w) :
    lex (List.intercalate [' '] (ws.map (fun w => formatValue w.1 w.2))) = .ok (ws.map (fun w => valueTok w.1 w.2)) :=
  words_roundtrip_sep (by decide) ws h

theorem words_roundtrip_newline (ws : List (List Char × Bool)) (h : ∀ w ∈ ws, ValueOk w) :
    lex (List.intercalate ['\n'] (ws.map (fun w => formatValue w.1 w.2))) = .ok (ws.map (fun w => valueTok w.1 w.2)) :=
  words_roundtrip_sep (by decide) ws h

/-- **whole files**: lines that lex on their own (comments allowed anywhere), joined by newlines. -/
theorem lines_roundtrip : ∀ (ls : List (List Char × List Tok)), (∀ l ∈ ls, lex l.1 = .ok l.2) →
    lex (List.intercalate ['\n'] (ls.map (·.1))) = .ok (ls.map (·.2)).flatten :=
  fun ls h => lex_intercalate (by decide) ls h (.inl rfl)

theorem test_lex_config :
    lex "route /x {\n  auth \"a\\\"b\" {$FOO} {env.X} # hi\n}".toList =
      .ok [.ident "route".toList, .ident "/x".toList, .lbrace, .ident "auth".toList, .str "a\"b".toList,
        .ident "{$FOO}".toList, .ident "{env.X}".toList, .comment "# hi".toList, .rbrace] := by
  decide +kernel

theorem test_quote :
    quoteString "a\"b\\c\nd\te\rf {#} é".toList = "\"a\\\"b\\\\c\\nd\\te\\rf {#} é\"".toList ∧
    lex (quoteString "a\"b\\c\nd\te\rf {#} é".toList) = .ok [.str "a\"b\\c\nd\te\rf {#} é".toList] :=
  ⟨by decide +kernel, quote_lex_roundtrip _⟩

theorem test_formatValue :
    formatValue "abc".toList false = "abc".toList ∧
    formatValue "abc".toList true = "\"abc\"".toList ∧
    formatValue "a b".toList false = "\"a b\"".toList ∧
    formatValue "".toList false = "\"\"".toList ∧
    formatValue "{$X}".toList false = "{$X}".toList ∧
    formatValue "{vars.X}".toList false = "{vars.X}".toList ∧
    formatValue "a#b".toList false = "\"a#b\"".toList := by
  decide +kernel

theorem test_placeholders :
    lex "{$A}".toList = .ok [.ident "{$A}".toList] ∧
    lex "{env.HOME}".toList = .ok [.ident "{env.HOME}".toList] ∧
    lex "{file./run/s\"x#}".toList = .ok [.ident "{file./run/s\"x#}".toList] ∧
    lex "{$A B}".toList = .ok [.lbrace, .ident "$A".toList, .ident "B".toList, .rbrace] ∧
    lex "{$A".toList = .ok [.lbrace, .ident "$A".toList] ∧
    lex "{envX}".toList = .ok [.lbrace, .ident "envX".toList, .rbrace] ∧
    lex "{$a}}".toList = .ok [.ident "{$a}".toList, .rbrace] := by
  decide +kernel

theorem test_strings :
    lex "\"abc".toList = .error "unterminated string" ∧
    lex "\"a\nb\"".toList = .error "unterminated string" ∧
    lex "\"a\\".toList = .error "unterminated escape" ∧
    lex "\"a\\qb\"".toList = .ok [.str "aqb".toList] ∧
    lex "x\"y\"z".toList = .ok [.ident ['x'], .str ['y'], .ident ['z']] := by
  decide +kernel

/-- the hypotheses of `words_roundtrip` are satisfiable -/
theorem test_words :
    lex (List.intercalate [' '] ([("pull".toList, false), ("a b".toList, true), ("{env.T}".toList, false)].map
      (fun w => formatValue w.1 w.2))) =
      .ok [.ident "pull".toList, .str "a b".toList, .ident "{env.T}".toList] :=
  words_roundtrip _ (by
    intro w hw
    simp only [List.mem_cons, List.not_mem_nil, or_false] at hw
    rcases hw with rfl | rfl | rfl
    · exact .inr (by decide +kernel)
    · exact .inl rfl
    · exact .inr (by decide +kernel))

theorem test_paths :
    isUnquotedPathSafe "/hooks/a".toList = true ∧ isUnquotedPathSafe "hooks".toList = false ∧
    isUnquotedPathSafe "/a b".toList = false ∧ isUnquotedPathSafe "".toList = false := by
  decide +kernel

#print axioms quote_lex_roundtrip
#print axioms unquoted_lex_roundtrip
#print axioms placeholder_lex_roundtrip
#print axioms readPlaceholder_eq_some_iff
#print axioms lexer_ident_form
#print axioms lexer_ident_shape
#print axioms lex_single_ident_iff
#print axioms isUnquotedValueSafe_iff
#print axioms isUnquotedValueSafe_of_identForm
#print axioms isUnquotedPathSafe_roundtrip
#print axioms isGap_brace_iff
#print axioms unquoted_safe_gap
#print axioms gap_not_roundtrip
#print axioms unquoted_safe_roundtrip_iff
#print axioms gap_witness_x
#print axioms gap_witness_vars
#print axioms gap_witness_empty_braces
#print axioms gap_witness_error
#print axioms value_roundtrip
#print axioms value_roundtrip'
#print axioms formatValue_total
#print axioms lex_append_space
#print axioms lex_append_sep
#print axioms lex_append_newline
#print axioms lex_append_space_needs_condition
#print axioms words_roundtrip
#print axioms words_roundtrip_newline
#print axioms lines_roundtrip
#print axioms lexAux_fuel
#print axioms lex_cons
#print axioms test_lex_config
#print axioms test_quote
#print axioms test_formatValue
#print axioms test_placeholders
#print axioms test_strings
#print axioms test_words
#print axioms test_paths

end Hk.Lex
