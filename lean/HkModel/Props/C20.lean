import HkModel.Model.Mcp
/-! C20 — MCP tools are role-, flag- and principal-gated, confined and audited. Theorems over the REGENERATED
    tables: a fact about the tables is evaluated over the complete finite lists (`decide +kernel`; plain `decide` would
    evaluate every string comparison in the elaborator as well); what holds for every tool name, listed or not, follows
    from `gating_complete` and needs at most one such fact. -/
namespace Hk.Mcp
open Hk.Gen

theorem unknown_tool_denied (t : String) (h : requiredRole t = none) (role : Role) (mu rt p : Bool) :
    allowed t role mu rt p = false := by
  simp [allowed, h]

theorem not_or_eq_true {a b : Bool} : (!a || b) = true ↔ (a = true → b = true) := by
  cases a <;> simp

theorem gating_complete (t : String) (role : Role) (mu rt p : Bool) :
    allowed t role mu rt p = true ↔
      ∃ r, requiredRole t = some r ∧ r.rank ≤ role.rank ∧ (needsMut t = true → mu = true) ∧
        (needsRt t = true → rt = true) ∧ (mutating t = true → p = true) := by
  unfold allowed
  cases h : requiredRole t with
  | none => simp
  | some r =>
    simp only [Bool.and_eq_true, not_or_eq_true, decide_eq_true_eq, Option.some.injEq, exists_eq_left']
    exact ⟨fun ⟨⟨⟨h1, h2⟩, h3⟩, h4⟩ => ⟨h3, h1, h2, h4⟩, fun ⟨h3, h1, h2, h4⟩ => ⟨⟨⟨h1, h2⟩, h3⟩, h4⟩⟩

/-- the role table, the dispatch switch and the descriptor list name exactly the same tools; every tool of a flag /
    mutating table is a known tool; no tool is listed twice -/
theorem tables_consistent :
    sameSet tools mcpDispatch = true ∧ sameSet tools mcpDescriptors = true ∧
    mcpNeedsMut.all tools.contains = true ∧ mcpNeedsRt.all tools.contains = true ∧ mcpMutating.all tools.contains = true ∧
    tools.length = mcpDescriptors.length ∧ tools.length = mcpDispatch.length ∧
    (mcpRole.all (fun p => (Role.ofString? p.2).isSome)) = true := by decide +kernel

/-- **Every mutating tool needs a feature flag and at least the operate role**; no tool needs both flags. -/
theorem mutating_needs_flag :
    mcpMutating.all (fun t => (needsMut t || needsRt t) &&
      (match requiredRole t with | some r => decide (r.rank ≥ 2) | none => false)) = true ∧
    tools.all (fun t => !(needsMut t && needsRt t)) = true := by decide +kernel

/-- **The code's flag tables are the documented ones** (`spec.md` headings), and the documented tool list is the
    code's tool list. -/
theorem code_matches_doc :
    sameSet mcpNeedsMut mcpDocMut = true ∧ sameSet mcpNeedsRt mcpDocRt = true ∧ sameSet tools mcpDocTools = true := by
  decide +kernel

/-- the role enters the decision only through `r.rank ≤ role.rank` -/
theorem allowed_mono {t : String} {role role' : Role} {mu rt p : Bool} (h : role.rank ≤ role'.rank)
    (ha : allowed t role mu rt p = true) : allowed t role' mu rt p = true := by
  obtain ⟨r, hr, hle, hrest⟩ := (gating_complete t role mu rt p).mp ha
  exact (gating_complete t role' mu rt p).mpr ⟨r, hr, Nat.le_trans hle h, hrest⟩

theorem allowed_mutating {t : String} {role : Role} {mu rt p : Bool} (hm : mutating t = true)
    (ha : allowed t role mu rt p = true) : 2 ≤ role.rank ∧ (mu = true ∨ rt = true) ∧ p = true := by
  obtain ⟨r, hr, hle, hmu, hrt, hp⟩ := (gating_complete t role mu rt p).mp ha
  have ht := List.all_eq_true.mp mutating_needs_flag.1 t (List.contains_iff_mem.mp hm)
  simp only [hr, Bool.and_eq_true, Bool.or_eq_true, decide_eq_true_eq] at ht
  exact ⟨Nat.le_trans ht.2 hle, ht.1.imp hmu hrt, hp hm⟩

theorem mutating_denied_without_flags_or_principal :
    (∀ role p, mcpMutating.all (fun t => !allowed t role false false p) = true) ∧
    (∀ role mu rt, mcpMutating.all (fun t => !allowed t role mu rt false) = true) := by
  constructor
  · intro role p
    refine List.all_eq_true.mpr fun t ht => ?_
    rw [Bool.not_eq_true', Bool.eq_false_iff]
    exact fun ha => (allowed_mutating (List.contains_iff_mem.mpr ht) ha).2.1.elim nofun nofun
  · intro role mu rt
    refine List.all_eq_true.mpr fun t ht => ?_
    rw [Bool.not_eq_true', Bool.eq_false_iff]
    exact fun ha => Bool.false_ne_true (allowed_mutating (List.contains_iff_mem.mpr ht) ha).2.2

theorem role_monotone (mu rt p : Bool) :
    tools.all (fun t => (!allowed t .read mu rt p || allowed t .operate mu rt p) &&
      (!allowed t .operate mu rt p || allowed t .admin mu rt p)) = true :=
  List.all_eq_true.mpr fun _ _ => Bool.and_eq_true_iff.mpr
    ⟨not_or_eq_true.mpr (allowed_mono (by decide)), not_or_eq_true.mpr (allowed_mono (by decide))⟩

theorem read_role_inspect_only (mu rt p : Bool) :
    tools.all (fun t => !allowed t .read mu rt p || !mutating t) = true :=
  List.all_eq_true.mpr fun t _ => not_or_eq_true.mpr fun ha => by
    cases hm : mutating t
    · rfl
    · exact absurd (allowed_mutating hm ha).1 (by decide)

/-- **tools/list advertises exactly the allowed tools** -/
theorem list_eq_call (role : Role) (mu rt p : Bool) (t : String) :
    t ∈ listed role mu rt p ↔ t ∈ mcpDescriptors ∧ allowed t role mu rt p = true := by
  simp [listed]

theorem audit_on_every_outcome (t : String) (o : Outcome) :
    auditRecords t o = if mutating t then 1 else 0 := rfl

/-- the order of the access checks as extracted: unknown tool, mutations flag, runtime flag, role, principal -/
theorem access_check_order :
    mcpAccessChecks = ["!ok", "toolRequiresMutationsFlag", "toolRequiresRuntimeControlFlag", "roleAllows",
      "toolIsMutating+auditPrincipal"] := rfl

example : allowed "dlq_delete" .operate true false true = true ∧ allowed "dlq_delete" .read true false true = false ∧
    allowed "dlq_delete" .admin false true true = false ∧ allowed "dlq_delete" .admin true true false = false ∧
    allowed "instance_stop" .admin false true true = true ∧ allowed "nope" .admin true true true = false ∧
    tools.length = 31 := by decide +kernel

end Hk.Mcp
