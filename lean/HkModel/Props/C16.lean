import HkModel.Model.Egress
import HkModel.Model.Dispatch
import HkModel.Proofs.Scan
/-! C16 — egress policy on every delivery and redirect hop. -/
namespace Hk.Egress

/-- A quotient that takes the same value at both ends of an interval is constant on it. For an address block and the
    leading bytes `isAllowedIP` tests, `rfl` compares the two ends. -/
theorem div_const_of_mem {n lo hi k : Nat} (h : lo ≤ n ∧ n < hi) (hk : lo / k = (hi - 1) / k) : n / k = lo / k :=
  Nat.le_antisymm (hk ▸ Nat.div_le_div_right (Nat.le_sub_one_of_lt h.2)) (Nat.div_le_div_right h.1)

/-- **Rebind protection is sound**: an address the implementation-shaped predicate lets through is in none of
    the listed classes (loopback, private, link-local, multicast, unspecified; v4, v6 and v4-mapped). -/
theorem allowedIP_not_blocked (ip : IP) (hv4 : ip.v4 = true → ip.n < 4294967296)
    (hv6 : ip.v4 = false → ip.n < 340282366920938463463374607431768211456)
    (h : isAllowedIP ip = true) : ¬ blocked ip := by
  unfold isAllowedIP at h
  unfold blocked
  cases hv : ip.v4
  · simp only [hv, Bool.false_eq_true, if_false, Bool.and_eq_true, Bool.not_eq_true', Bool.or_eq_false_iff,
      beq_eq_false_iff_ne, Bool.and_eq_false_imp, beq_iff_eq, and_assoc] at h ⊢
    obtain ⟨h1, hll, -, hmc, h0, hula, -⟩ := h
    rintro (hb | hb | hb | hb | hb)
    · exact h1 hb
    · exact h0 hb
    · exact hula ((Nat.div_div_eq_div_mul ..).trans (div_const_of_mem hb rfl))
    -- the leading bits of the second byte are no quotient of `n` alone
    · exact hll (div_const_of_mem hb rfl) (by omega)
    · exact hmc (div_const_of_mem ⟨hb, hv6 hv⟩ rfl)
  · simp only [hv, if_true, Bool.and_eq_true, Bool.not_eq_true', Bool.or_eq_false_iff, beq_eq_false_iff_ne,
      Bool.and_eq_false_imp, beq_iff_eq, and_assoc] at h ⊢
    obtain ⟨hlo, hll, -, hmc, h0, h10, h172, h192, -⟩ := h
    rintro (hb | hb | hb | hb | hb | hb | hb)
    · exact hlo (div_const_of_mem hb rfl)
    · exact h10 (div_const_of_mem hb rfl)
    · exact h172 (div_const_of_mem hb rfl) (by omega)
    · exact h192 (div_const_of_mem hb rfl) (congrArg (· % 256) (div_const_of_mem hb rfl))
    · exact hll (div_const_of_mem hb rfl) (congrArg (· % 256) (div_const_of_mem hb rfl))
    · exact hmc ((Nat.div_div_eq_div_mul ..).trans (div_const_of_mem hb rfl))
    · exact h0 hb

/-- An allowed verdict passed every gate of `check`, in the order of its cascade (scheme, https-only, host,
    resolution, rebind, deny, allow); the theorems about `check` below are read off this. -/
theorem check_allowed_cases (p : Policy) (scheme hostname : String) (lit : Option IP) (ans : Option (List IP))
    (h : check p scheme hostname lit ans = .allowed) :
    (lower scheme = "http" ∨ lower scheme = "https") ∧ (p.httpsOnly = true → lower scheme = "https") ∧
    normHost hostname ≠ "" ∧
    ∃ ips, resolve p lit ans = some ips ∧
      (p.rebind = true → ∀ ip ∈ ips, isAllowedIP ip = true) ∧
      (p.deny ≠ [] → matchRules (normHost hostname) ips p.deny = false) ∧
      (p.allow ≠ [] → matchRules (normHost hostname) ips p.allow = true) := by
  revert h
  unfold check
  simp only [Scan.ite_eq_iff]
  cases resolve p lit ans with
  | none => simp
  | some ips => simp +contextual [Scan.ite_eq_iff, Decidable.or_iff_not_imp_left]

theorem allowed_implies_scheme (p : Policy) (scheme hostname : String) (lit ans)
    (h : check p scheme hostname lit ans = .allowed) :
    (lower scheme = "http" ∨ lower scheme = "https") ∧ (p.httpsOnly = true → lower scheme = "https") :=
  have ⟨h1, h2, _⟩ := check_allowed_cases p scheme hostname lit ans h
  ⟨h1, h2⟩

/-- with `dns_rebind_protection`, no address the host resolves to (at the time of the check) is in a listed class -/
theorem rebind_sound (p : Policy) (scheme hostname : String) (lit ans) (hr : p.rebind = true)
    (h : check p scheme hostname lit ans = .allowed) :
    ∃ ips, resolve p lit ans = some ips ∧
      ∀ ip ∈ ips, (ip.v4 = true → ip.n < 4294967296) → (ip.v4 = false → ip.n < 340282366920938463463374607431768211456) →
        ¬ blocked ip := by
  obtain ⟨_, _, _, ips, hres, hall, _, _⟩ := check_allowed_cases p scheme hostname lit ans h
  exact ⟨ips, hres, fun ip hip h4 h6 => allowedIP_not_blocked ip h4 h6 (hall hr ip hip)⟩

theorem rebind_checks_literal (p : Policy) (ip : IP) (ans) (hr : p.rebind = true) :
    resolve p (some ip) ans = some [ip] := by
  simp [resolve, hr]

theorem deny_wins (p : Policy) (scheme hostname : String) (lit ans) (ips : List IP)
    (hres : resolve p lit ans = some ips) (hd : matchRules (normHost hostname) ips p.deny = true) :
    check p scheme hostname lit ans ≠ .allowed := by
  intro h
  obtain ⟨_, _, _, ips', hres', _, hdeny, _⟩ := check_allowed_cases p scheme hostname lit ans h
  cases hres.symm.trans hres'
  have hne : p.deny ≠ [] := fun he => by simp [matchRules, he] at hd
  rw [hdeny hne] at hd; cases hd

theorem allowlist_required (p : Policy) (scheme hostname : String) (lit ans) (hne : p.allow ≠ [])
    (h : check p scheme hostname lit ans = .allowed) :
    ∃ ips, resolve p lit ans = some ips ∧ matchRules (normHost hostname) ips p.allow = true := by
  obtain ⟨_, _, _, ips, hres, _, _, hallow⟩ := check_allowed_cases p scheme hostname lit ans h
  exact ⟨ips, hres, hallow hne⟩

theorem wildcard_subdomain_only (host d : String) (hd : d ≠ "" ∧ d ≠ "*") (hh : host ≠ "") :
    matchHostRule host { host := d, sub := true } = true ↔
      host ≠ d ∧ endsWith host.toList ('.' :: d.toList) = true := by
  simp [matchHostRule, hd.1, hd.2, hh]

theorem exact_rule (host d : String) (hd : d ≠ "" ∧ d ≠ "*") (hh : host ≠ "") :
    matchHostRule host { host := d, sub := false } = true ↔ host = d := by
  simp [matchHostRule, hd.1, hd.2, hh]

theorem sentAux_cons (p : Policy) (x : Hop) (rest : List Hop) (s : Nat) :
    sentAux p (x :: rest) s =
      if (s = 0 ∨ p.redirects = true ∧ s < 10) ∧ hopOK p x = true then sentAux p rest (s + 1) else s := by
  cases s <;> simp [sentAux]

theorem sentAux_spec (p : Policy) : ∀ (chain : List Hop) (s : Nat), ∃ k, sentAux p chain s = s + k ∧ k ≤ 10 - s ∧
    (∀ j < k, ∃ h, chain[j]? = some h ∧ hopOK p h = true) ∧ (p.redirects = false → s + k ≤ max s 1) := by
  intro chain
  induction chain with
  | nil => exact fun s => ⟨0, rfl, Nat.zero_le _, nofun, fun _ => Nat.le_max_left ..⟩
  | cons x rest ih =>
    intro s
    rw [sentAux_cons]
    split
    · rename_i hc
      obtain ⟨k, e, hk, hok, hoff⟩ := ih (s + 1)
      refine ⟨k + 1, by omega, by omega, fun j hj => ?_, fun hr => ?_⟩
      · cases j with
        | zero => exact ⟨x, rfl, hc.2⟩
        | succ j => exact hok j (by omega)
      · have := hoff hr
        rcases hc.1 with h0 | h1
        · omega
        · simp [hr] at h1
    · exact ⟨0, rfl, Nat.zero_le _, nofun, fun _ => Nat.le_max_left ..⟩

theorem sentAux_mono (p : Policy) : ∀ (chain : List Hop) (s : Nat), 0 < s → s ≤ sentAux p chain s := by
  intro chain s _
  obtain ⟨k, e, -⟩ := sentAux_spec p chain s
  omega

/-- every request that leaves was for a hop the policy allowed -/
theorem every_hop_checked (p : Policy) : ∀ (chain : List Hop) (s : Nat) (pre : List Hop),
    pre.length = s → (∀ h ∈ pre, hopOK p h = true) →
    ∀ i, i < sentAux p chain s → ∀ h, (pre ++ chain)[i]? = some h → hopOK p h = true := by
  intro chain s pre hl hpre i hi h hget
  obtain ⟨k, e, -, hok, -⟩ := sentAux_spec p chain s
  by_cases hlt : i < pre.length
  · rw [List.getElem?_append_left hlt] at hget
    exact hpre h (List.mem_of_getElem? hget)
  · rw [List.getElem?_append_right (by omega)] at hget
    obtain ⟨h', hg, hh⟩ := hok (i - pre.length) (by omega)
    cases hget.symm.trans hg
    exact hh

theorem redirects_off_one_request (p : Policy) (hr : p.redirects = false) (chain : List Hop) : sent p chain ≤ 1 := by
  obtain ⟨k, e, -, -, hoff⟩ := sentAux_spec p chain 0
  have := hoff hr
  unfold sent
  omega

theorem denied_sends_nothing (p : Policy) (h : Hop) (rest : List Hop) (hd : hopOK p h = false) :
    sent p (h :: rest) = 0 := by
  simp [sent, sentAux, hd]

/-- at most 11 requests (target + 10 redirects) -/
theorem at_most_ten_redirects (p : Policy) : ∀ (chain : List Hop) (s : Nat), s ≤ 11 → sentAux p chain s ≤ 11 := by
  intro chain s _
  obtain ⟨k, e, hk, -⟩ := sentAux_spec p chain s
  omega

theorem policy_denied_no_retry (attempt max : Int) :
    Hk.Dispatch.classify .policyDenied attempt max = .dead "policy_denied" :=
  rfl

example : isAllowedIP ⟨true, 134744072⟩ = true ∧ isAllowedIP ⟨true, 2130706433⟩ = false ∧   -- 8.8.8.8, 127.0.0.1
    isAllowedIP ⟨true, 167772161⟩ = false ∧ isAllowedIP ⟨false, 1⟩ = false := by decide
example : check { rebind := true } "https" "Example.COM." none (some [⟨true, 134744072⟩]) = .allowed := by decide +kernel
example : check { rebind := true } "https" "example.com" none (some [⟨true, 134744072⟩, ⟨true, 167772161⟩]) = .denied := by decide +kernel
example : matchHostRule "a.example.com" { host := "example.com", sub := true } = true ∧
    matchHostRule "example.com" { host := "example.com", sub := true } = false ∧
    matchHostRule "evilexample.com" { host := "example.com", sub := true } = false := by decide +kernel

end Hk.Egress
