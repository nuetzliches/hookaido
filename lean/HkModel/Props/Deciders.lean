/-
  `isSuccess` and `shouldRetry` as written are the model's (C06) — by translation, for every delivery result.

  `Generated/Deciders.lean` holds the two functions of `internal/dispatcher/push.go` as if / endif / return programs with the
  source text of their conditions and returned expressions (regenerated on every run); `evalB` runs such a program on a
  delivery result, giving each condition text its meaning; the theorems say that for **every** result — every status code,
  a transport error, a policy denial — the program returns what `Model/Dispatch.isSuccess` / `shouldRetry` return. The
  evaluator, whatever the program, reads a result only through the values of its conditions and returned expressions, and a
  status code enters those through three yes/no questions (`Alike.status`); so six results (`kinds`) stand for all, and on
  those the programs are run. Together with `Props/ClassifyTree.lean` this makes the whole classification path of the push
  dispatcher a translated, not a hand-copied, model. A condition or expression the evaluator does not know gives `none` and
  the theorems fail.
-/
import HkModel.Model.Dispatch
import HkModel.Generated.Deciders

namespace Hk.Deciders
open Hk.Dispatch

def hasErr : Res → Bool
  | .status _ => false
  | _ => true

def code : Res → Int
  | .status n => n
  | _ => 0        -- a result with an error carries no status the deciders look at

def evalCond (r : Res) (c : String) : Option Bool :=
  if c == "res.Err != nil" then some (hasErr r)
  else if c == "errors.Is(res.Err, ErrPolicyDenied)" then some (r == .policyDenied)
  else if c == "code == http.StatusRequestTimeout || code == http.StatusTooManyRequests" then some (code r == 408 || code r == 429)
  else if c == "code >= 500" then some (decide (code r ≥ 500))
  else none

def evalRet (r : Res) (e : String) : Option Bool :=
  if e == "false" then some false
  else if e == "true" then some true
  else if e == "res.StatusCode >= 200 && res.StatusCode < 300" then some (decide (200 ≤ code r) && decide (code r < 300))
  else none

def skip : Nat → List (String × String) → List (String × String)
  | _, [] => []
  | depth, (k, _) :: rest =>
    if k == "if" then skip (depth + 1) rest
    else if k == "endif" then (if depth == 0 then rest else skip (depth - 1) rest)
    else skip depth rest

/-- programs without `else` (the extractor emits `else` events; none occurs in these two functions, and one would make the
    evaluator give up) -/
def evalB (r : Res) : Nat → List (String × String) → Option Bool
  | 0, _ => none
  | _, [] => none
  | fuel + 1, (k, v) :: rest =>
    if k == "if" then
      match evalCond r v with
      | none => none
      | some true => evalB r fuel rest
      | some false => evalB r fuel (skip 0 rest)
    else if k == "endif" then evalB r fuel rest
    else if k == "assign" then (if v == "code := res.StatusCode" then evalB r fuel rest else none)
    else if k == "return" then evalRet r v
    else none

structure Alike (r r' : Res) : Prop where
  cond : evalCond r = evalCond r'
  ret : evalRet r = evalRet r'
  success : isSuccess r = isSuccess r'
  retry : shouldRetry r = shouldRetry r'

theorem Alike.evalB {r r' : Res} (h : Alike r r') : ∀ fuel p, evalB r fuel p = evalB r' fuel p
  | 0, _ => rfl
  | _ + 1, [] => rfl
  | k + 1, _ :: _ => by unfold Deciders.evalB; rw [h.cond, h.ret, h.evalB k, h.evalB k]

theorem Alike.status {n m : Int} (h : (n = 408 ∨ n = 429 ↔ m = 408 ∨ m = 429) ∧ (500 ≤ n ↔ 500 ≤ m) ∧
    (200 ≤ n ∧ n < 300 ↔ 200 ≤ m ∧ m < 300)) : Alike (.status n) (.status m) := by
  have slow : (n == 408 || n == 429) = (m == 408 || m == 429) :=
    Bool.eq_iff_iff.mpr (by simpa using h.1)
  have server : decide (n ≥ 500) = decide (m ≥ 500) := decide_eq_decide.mpr h.2.1
  have ok : (decide (200 ≤ n) && decide (n < 300)) = (decide (200 ≤ m) && decide (m < 300)) :=
    Bool.eq_iff_iff.mpr (by simpa using h.2.2)
  refine ⟨?_, ?_, ok, by simp only [shouldRetry, slow, server]⟩
  · funext c; unfold evalCond code; rw [slow, server]; rfl
  · funext e; unfold evalRet code; rw [ok]

def kinds : List Res := [.err, .policyDenied, .status 408, .status 500, .status 200, .status 0]

theorem alike_kind : ∀ r, ∃ r' ∈ kinds, Alike r r'
  | .err => ⟨.err, by decide, ⟨rfl, rfl, rfl, rfl⟩⟩
  | .policyDenied => ⟨.policyDenied, by decide, ⟨rfl, rfl, rfl, rfl⟩⟩
  | .status n => by
    by_cases h1 : n = 408 ∨ n = 429
    · exact ⟨.status 408, by decide, .status (by omega)⟩
    by_cases h2 : 500 ≤ n
    · exact ⟨.status 500, by decide, .status (by omega)⟩
    by_cases h3 : 200 ≤ n ∧ n < 300
    · exact ⟨.status 200, by decide, .status (by omega)⟩
    · exact ⟨.status 0, by decide, .status (by omega)⟩

theorem code_isSuccess_is_model (r : Res) : evalB r 20 Gen.isSuccessProgram = some (isSuccess r) := by
  obtain ⟨r', hr', h⟩ := alike_kind r
  rw [h.evalB, h.success]
  exact (by decide +kernel : ∀ r' ∈ kinds, evalB r' 20 Gen.isSuccessProgram = some (isSuccess r')) r' hr'

theorem code_shouldRetry_is_model (r : Res) : evalB r 40 Gen.shouldRetryProgram = some (shouldRetry r) := by
  obtain ⟨r', hr', h⟩ := alike_kind r
  rw [h.evalB, h.retry]
  exact (by decide +kernel : ∀ r' ∈ kinds, evalB r' 40 Gen.shouldRetryProgram = some (shouldRetry r')) r' hr'

/-- an unknown condition is refused -/
example : evalB (.status 200) 5 [("if", "res.StatusCode == 204"), ("return", "true"), ("endif", ""), ("return", "false")] = none := by decide +kernel

end Hk.Deciders
