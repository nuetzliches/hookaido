import HkModel.Proofs.InvStep
/-!
  The lease operations, message by message. While every lease id has one holder (`LInv`, part of `Inv`),
  `leaseOne` is a `filterMap` of a function of the single message (`one`) and its verdict a function of the
  holder (`outcome`); a batch is the `filterMap` of the composition (`many`). `many` is then computed outright for
  the three kinds of message there are: not addressed, addressed with an expired lease, addressed with a live
  lease.
-/
namespace Hk
open Hk.Obs

/-- the part of `Inv` the lease operations rely on -/
structure LInv (ms : List Msg) : Prop where
  nodup : (ms.map (·.id)).Nodup
  uniq : ∀ a ∈ ms, ∀ b ∈ ms, a.st = .leased → b.st = .leased → a.lease = b.lease → a.id = b.id

theorem LInv_of_Inv {q : Q} (h : Inv q) : LInv q.msgs where
  nodup := h.nodup
  uniq := fun a ha b hb hsa _ hl => by rw [h.leaseUniq a ha b hb ((h.leaseIff a ha).1 hsa) hl]

theorem holds_unique {ms : List Msg} (h : LInv ms) {l : String} {a b : Msg} (ha : a ∈ ms) (hb : b ∈ ms)
    (hha : holds l a = true) (hhb : holds l b = true) : a = b := by
  rw [holds_iff] at hha hhb
  exact eq_of_id_eq h.nodup ha hb (h.uniq a ha b hb hha.1 hhb.1 (by rw [hha.2, hhb.2]))

/-- what `leaseOne` does to a single message -/
def one (c : Cfg) (now : Int) (k : LeaseKind) (l : String) (x : Msg) : Option Msg :=
  if l ≠ "" ∧ holds l x = true then (if x.luntil ≤ now then some (release now x) else applyLease c now k x) else some x

/-- the verdict of `leaseOne` -/
def outcome (now : Int) (l : String) (ms : List Msg) : Option Err :=
  if l = "" then some .leaseNotFound else
  match ms.find? (holds l) with
  | none => some .leaseNotFound
  | some m => if m.luntil ≤ now then some .leaseExpired else none

theorem outcome_holder {now : Int} {l : String} {ms : List Msg} {o : Option Err} (h : outcome now l ms = o)
    (hne : o ≠ some .leaseNotFound) :
    l ≠ "" ∧ ∃ m ∈ ms, holds l m = true ∧ o = if m.luntil ≤ now then some .leaseExpired else none := by
  subst h
  unfold outcome at hne ⊢
  by_cases hl : l = ""
  · exact absurd (if_pos hl) hne
  · rw [if_neg hl] at hne ⊢
    cases hf : ms.find? (holds l) with
    | none => exact absurd (by rw [hf]) hne
    | some m => exact ⟨hl, m, List.mem_of_find?_eq_some hf, List.find?_some hf, rfl⟩

/-- an accepted operation found a live holder -/
theorem outcome_none {now : Int} {l : String} {ms : List Msg} (h : outcome now l ms = none) :
    l ≠ "" ∧ ∃ m ∈ ms, holds l m = true ∧ now < m.luntil := by
  obtain ⟨hl, m, hm, hh, hc⟩ := outcome_holder h nofun
  exact ⟨hl, m, hm, hh, Int.not_le.1 fun hle => by rw [if_pos hle] at hc; cases hc⟩

/-- the verdict "expired" is that of a holder whose lease has run out -/
theorem outcome_expired {now : Int} {l : String} {ms : List Msg} (h : outcome now l ms = some .leaseExpired) :
    l ≠ "" ∧ ∃ m ∈ ms, holds l m = true ∧ m.luntil ≤ now := by
  obtain ⟨hl, m, hm, hh, hc⟩ := outcome_holder h nofun
  exact ⟨hl, m, hm, hh, Classical.byContradiction fun hn => by rw [if_neg hn] at hc; cases hc⟩

theorem one_skip {c : Cfg} {now : Int} {k : LeaseKind} {l : String} {x : Msg}
    (h : ¬ (l ≠ "" ∧ holds l x = true)) : one c now k l x = some x :=
  if_neg h

theorem one_of_not_holds {c : Cfg} {now : Int} {k : LeaseKind} {l : String} {x : Msg}
    (h : holds l x = false) : one c now k l x = some x :=
  one_skip fun hh => Bool.false_ne_true (h ▸ hh.2)

theorem one_expired {c : Cfg} {now : Int} {k : LeaseKind} {l : String} {x : Msg} (hl : l ≠ "")
    (h : holds l x = true) (he : x.luntil ≤ now) : one c now k l x = some (release now x) := by
  simp [one, hl, h, he]

theorem one_live {c : Cfg} {now : Int} {k : LeaseKind} {l : String} {x : Msg} (hl : l ≠ "")
    (h : holds l x = true) (he : ¬ x.luntil ≤ now) : one c now k l x = applyLease c now k x := by
  simp [one, hl, h, he]

theorem one_id {c : Cfg} {now : Int} {k : LeaseKind} {l : String} {x y : Msg}
    (h : one c now k l x = some y) : y.id = x.id := by
  unfold one at h
  split at h
  · split at h
    · cases h; rfl
    · exact applyLease_id h
  · cases h; rfl

theorem one_leased {c : Cfg} {now : Int} {k : LeaseKind} {l : String} {x y : Msg}
    (h : one c now k l x = some y) (hy : y.st = .leased) : x.st = .leased ∧ y.lease = x.lease := by
  unfold one at h
  split at h
  next hh =>
    split at h
    · cases h; cases hy
    · obtain ⟨d, _, rfl⟩ := applyLease_leased h hy
      exact ⟨(holds_iff.1 hh.2).1, rfl⟩
  · cases h; exact ⟨hy, rfl⟩

theorem LInv_one {ms : List Msg} (h : LInv ms) (c : Cfg) (now : Int) (k : LeaseKind) (l : String) :
    LInv (ms.filterMap (one c now k l)) where
  nodup := nodup_filterMap h.nodup fun _ _ => one_id
  uniq := by
    intro a ha b hb hsa hsb hl
    obtain ⟨a0, ha0, hfa⟩ := List.mem_filterMap.1 ha
    obtain ⟨b0, hb0, hfb⟩ := List.mem_filterMap.1 hb
    have h1 := one_leased hfa hsa
    have h2 := one_leased hfb hsb
    rw [one_id hfa, one_id hfb]
    exact h.uniq a0 ha0 b0 hb0 h1.1 h2.1 (by rw [← h1.2, ← h2.2, hl])

theorem outcome_of_holder {ms : List Msg} (h : LInv ms) {now : Int} {l : String} (hl : l ≠ "") {x : Msg} (hx : x ∈ ms)
    (hh : holds l x = true) : outcome now l ms = if x.luntil ≤ now then some .leaseExpired else none := by
  simp [outcome, hl, List.find?_eq_some_of_unique hx hh fun y hy hhy => holds_unique h hy hx hhy hh]

theorem leaseOne_eq {ms : List Msg} (h : LInv ms) (c : Cfg) (now : Int) (k : LeaseKind) (l : String) :
    leaseOne c now k l ms = (ms.filterMap (one c now k l), outcome now l ms) := by
  have hself : ∀ {g : Msg → Option Msg}, (∀ x ∈ ms, g x = some x) → ms.filterMap g = ms := fun hg => by
    rw [filterMap_congr hg, List.filterMap_some]
  rcases leaseOne_cases c now k l ms with ⟨hno, he⟩ | ⟨hl, m, hm, hh, hle, he⟩ | ⟨hl, m, hm, hh, hlt, he⟩ <;> rw [he]
  · congr 1
    · refine (hself fun x hx => ?_).symm
      rcases hno with rfl | hno
      · exact one_skip fun hh => hh.1 rfl
      · exact one_of_not_holds (hno x hx)
    · unfold outcome
      rcases hno with rfl | hno
      · rfl
      · split
        · rfl
        · rw [List.find?_eq_none.2 fun x hx => by simp [hno x hx]]
  all_goals
    have hone : ∀ x ∈ ms, holds l x = true → x = m := fun x hx hhx => holds_unique h hx hm hhx hh
  · congr 1
    · rw [← List.filterMap_eq_map]
      refine filterMap_congr fun x hx => ?_
      by_cases hhx : holds l x = true
      · have := hone x hx hhx; subst this; simp [one_expired hl hhx hle, hhx]
      · simp [one, hhx]
    · rw [outcome_of_holder h hl hm hh, if_pos hle]
  · congr 1
    · refine filterMap_congr fun x hx => ?_
      by_cases hhx : holds l x = true
      · have := hone x hx hhx; subst this; simp [one_live hl hhx (by omega : ¬ x.luntil ≤ now), hhx]
      · simp [one, hhx]
    · rw [outcome_of_holder h hl hm hh, if_neg (by omega)]

theorem one_of_refused {ms : List Msg} (h : LInv ms) {c : Cfg} {now : Int} {k : LeaseKind} {l : String} {e : Err}
    (ho : outcome now l ms = some e) {x : Msg} (hx : x ∈ ms) :
    one c now k l x = some x ∨ (expired now x = true ∧ one c now k l x = some (release now x)) := by
  by_cases hhx : l ≠ "" ∧ holds l x = true
  · have hle : x.luntil ≤ now := Classical.byContradiction fun hn => by
      rw [outcome_of_holder h hhx.1 hx hhx.2, if_neg hn] at ho; cases ho
    exact .inr ⟨expired_iff.2 ⟨(holds_iff.1 hhx.2).1, hle⟩, one_expired hhx.1 hhx.2 hle⟩
  · exact .inl (one_skip hhx)

theorem one_of_accepted {ms : List Msg} (h : LInv ms) {c : Cfg} {now : Int} {k : LeaseKind} {l : String}
    (ho : outcome now l ms = none) :
    l ≠ "" ∧ ∃ cur ∈ ms, holds l cur = true ∧ now < cur.luntil ∧
      ∀ x ∈ ms, one c now k l x = if x.id = cur.id then applyLease c now k x else some x := by
  obtain ⟨hl, cur, hcur, hh, hlt⟩ := outcome_none ho
  refine ⟨hl, cur, hcur, hh, hlt, fun x hx => ?_⟩
  by_cases hid : x.id = cur.id
  · rw [if_pos hid, eq_of_id_eq h.nodup hx hcur hid, one_live hl hh (Int.not_le.2 hlt)]
  · rw [if_neg hid]
    refine one_of_not_holds (Bool.eq_false_iff.2 fun hhx => hid ?_)
    rw [holds_unique h hx hcur hhx hh]

/-- trajectory of one message through the lease ids `ids` (blank ones are skipped by `one`) -/
def many (c : Cfg) (now : Int) (k : LeaseKind) : List String → Msg → Option Msg
  | [], x => some x
  | l :: rest, x => (one c now k l x).bind (many c now k rest)

theorem many_id {c : Cfg} {now : Int} {k : LeaseKind} {ids : List String} {x y : Msg}
    (h : many c now k ids x = some y) : y.id = x.id := by
  induction ids generalizing x with
  | nil => cases h; rfl
  | cons l rest ih =>
    obtain ⟨z, hz, hzy⟩ := Option.bind_eq_some_iff.1 h
    rw [ih hzy, one_id hz]

theorem fold_msgs {ms : List Msg} (h : LInv ms) (c : Cfg) (now : Int) (k : LeaseKind) (ls : List String)
    (n : Nat) (cs : List Conflict) :
    (leaseBatchFold c now k ls ms n cs).1 = ms.filterMap (many c now k (ls.map trimWS)) := by
  induction ls generalizing ms n cs with
  | nil => exact List.filterMap_some.symm
  | cons raw rest ih =>
    have hstep : ms.filterMap (many c now k ((raw :: rest).map trimWS)) =
        (ms.filterMap (one c now k (trimWS raw))).filterMap (many c now k (rest.map trimWS)) := by
      rw [List.filterMap_filterMap]; rfl
    rw [leaseBatchFold_cons]
    split
    next hb =>
      rw [ih h, hstep, filterMap_congr fun x _ => one_skip fun hh => hh.1 hb,
        List.filterMap_some]
    · rw [leaseOne_eq h, hstep]
      split <;> exact ih (LInv_one h ..) ..

def bids (ids : List String) : List String := ids.filter (· ≠ "")

theorem mem_bids {ids : List String} {l : String} : l ∈ bids ids ↔ l ∈ ids ∧ l ≠ "" := by
  simp [bids]

theorem many_keep {c : Cfg} {now : Int} {k : LeaseKind} {ids : List String} {x : Msg}
    (h : ¬ (x.st = .leased ∧ x.lease ∈ bids ids)) : many c now k ids x = some x := by
  induction ids with
  | nil => rfl
  | cons l rest ih =>
    have : one c now k l x = some x := one_skip fun hh => h ⟨(holds_iff.1 hh.2).1,
      mem_bids.2 ⟨(holds_iff.1 hh.2).2 ▸ List.mem_cons_self .., (holds_iff.1 hh.2).2 ▸ hh.1⟩⟩
    simp only [many, this]
    exact ih fun hh => h ⟨hh.1, mem_bids.2 ⟨List.mem_cons_of_mem _ (mem_bids.1 hh.2).1, (mem_bids.1 hh.2).2⟩⟩

/-- nothing happens to a message before the first occurrence of its lease id; among ids without repetition there
    is no second one -/
theorem many_first {c : Cfg} {now : Int} {k : LeaseKind} {ids : List String} {x : Msg} (hl : x.lease ∈ bids ids) :
    ∃ rest, many c now k ids x = (one c now k x.lease x).bind (many c now k rest) ∧
      ((bids ids).Nodup → x.lease ∉ bids rest) := by
  induction ids with
  | nil => simp [bids] at hl
  | cons l tl ih =>
    obtain ⟨hmem, hne⟩ := mem_bids.1 hl
    by_cases hxl : x.lease = l
    · subst hxl
      refine ⟨tl, rfl, fun hnd => ?_⟩
      rw [bids, List.filter_cons_of_pos (by simpa using hne), List.nodup_cons] at hnd
      exact hnd.1
    · obtain ⟨rest, h1, h2⟩ := ih (mem_bids.2 ⟨(List.mem_cons.1 hmem).resolve_left hxl, hne⟩)
      refine ⟨rest, ?_, fun hnd => h2 (((List.sublist_cons_self l tl).filter _).nodup hnd)⟩
      rw [← h1, many, one_of_not_holds (Bool.eq_false_iff.2 fun hh => hxl (holds_iff.1 hh).2), Option.bind_some]

theorem many_expired {c : Cfg} {now : Int} {k : LeaseKind} {ids : List String} {x : Msg}
    (hs : x.st = .leased) (hl : x.lease ∈ bids ids) (he : x.luntil ≤ now) :
    many c now k ids x = some (release now x) := by
  obtain ⟨rest, h, _⟩ := many_first (c := c) (now := now) (k := k) hl
  rw [h, one_expired (mem_bids.1 hl).2 (holds_iff.2 ⟨hs, rfl⟩) he]
  exact many_keep fun h => by simp [release] at h

/-- addressed once (or by a kind that ends the lease), a live holder gets the operation applied once -/
theorem many_live {c : Cfg} {now : Int} {k : LeaseKind} {ids : List String} {x : Msg}
    (hnd : ∀ d, k = .extend d → (bids ids).Nodup)
    (hs : x.st = .leased) (hl : x.lease ∈ bids ids) (he : ¬ x.luntil ≤ now) :
    many c now k ids x = applyLease c now k x := by
  obtain ⟨rest, h, hnot⟩ := many_first (c := c) (now := now) (k := k) hl
  rw [h, one_live (mem_bids.1 hl).2 (holds_iff.2 ⟨hs, rfl⟩) he]
  cases ha : applyLease c now k x with
  | none => rfl
  | some y =>
    -- still leased only after an extension, which addresses no lease twice
    refine many_keep fun hy => ?_
    obtain ⟨d, hd, rfl⟩ := applyLease_leased ha hy.1
    exact hnot (hnd d hd) hy.2

theorem many_singleton (c : Cfg) (now : Int) (k : LeaseKind) (l : String) : many c now k [l] = one c now k l := by
  funext x; simp [many]

theorem many_extend {c : Cfg} {now d : Int} (hd : 0 ≤ d) (ids : List String) :
    ∀ x : Msg, x.st = .leased → now < x.luntil →
      many c now (.extend d) ids x = some x ∨ ∃ u, many c now (.extend d) ids x = some { x with luntil := u, next := u } := by
  induction ids with
  | nil => exact fun x _ _ => .inl rfl
  | cons l rest ih =>
    intro x hst hlt
    simp only [many]
    by_cases hh : l ≠ "" ∧ holds l x = true
    · -- extended once; the rest acts on a holder that is live all the more
      rw [one_live hh.1 hh.2 (by omega)]
      exact .inr ((ih { x with luntil := x.luntil + d, next := x.luntil + d } hst (by show now < x.luntil + d; omega)).elim
        (fun h => ⟨_, h⟩) fun ⟨u, h⟩ => ⟨u, h⟩)
    · rw [one_skip hh]
      exact ih x hst hlt

end Hk
