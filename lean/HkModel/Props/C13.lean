import HkModel.Props.Queue
/-! C13 — backends observationally equivalent: the contract is a *function* of state, operation and the
    implementation's free choices, so any two refinements agree on everything but those choices.
    (`Props/Queue` is imported for `run_ok` and `inv_reachable`, which the registry audits under C13 through this file.) -/
namespace Hk

theorem C13_deterministic (c : Cfg) (now : Int) (q : Q) (op : Op) (ch : Choice) (a b : Q × Resp)
    (ha : step c now q op ch = some a) (hb : step c now q op ch = some b) : a = b := by
  rw [ha] at hb; exact Option.some.inj hb

/-- the operations that involve no free choice: everything except dequeue, enqueue under a full queue and the depth prune -/
theorem C13_choice_free_ops (c : Cfg) (now : Int) (q : Q) (ch₁ ch₂ : Choice) (op : Op)
    (h : match op with
      | .lease _ _ | .leaseBatch _ _ | .byIds _ _ | .byFilter _ _ | .lookup _ | .restart => True
      | _ => False) :
    step c now q op ch₁ = step c now q op ch₂ := by
  cases op <;> simp at h <;> simp [step]

theorem C13_dequeue_count_choice_independent (c : Cfg) (now : Int) (q : Q) (route target : String) (batch ttl : Int)
    (ch₁ ch₂ : Choice) (q₁ q₂ : Q) (r₁ r₂ : Resp) (hg : ch₁.gone = ch₂.gone)
    (h₁ : step c now q (.dequeue route target batch ttl) ch₁ = some (q₁, r₁))
    (h₂ : step c now q (.dequeue route target batch ttl) ch₂ = some (q₂, r₂)) :
    ∃ p₁ p₂, r₁ = .items p₁ ∧ r₂ = .items p₂ ∧ p₁.length = p₂.length := by
  cases step_view h₁ with
  | dequeue hp₁ hl₁ =>
    cases step_view h₂ with
    | dequeue hp₂ hl₂ =>
      obtain rfl := Option.some.inj (hp₁.symm.trans (hg ▸ hp₂))
      exact ⟨_, _, rfl, rfl, (legalPicks_iff.1 hl₁).1.trans (legalPicks_iff.1 hl₂).1.symm⟩

end Hk
