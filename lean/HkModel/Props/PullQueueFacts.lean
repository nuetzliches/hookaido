import HkModel.Model.PullOps
import HkModel.Proofs.Ops
/-!
  What the pull-layer proofs (`Props/PullLayer.lean`) use of the queue model beyond `Proofs/Ops`: the store's
  answers to the three calls the pull layer makes (`lease`, `leaseBatch`, `dequeue`) in the form those proofs
  need. Nothing here mentions the pull layer.
-/
namespace Hk.PullOps
open Hk

variable {c : Cfg} {now : Int} {k : LeaseKind} {l : String} {ms : List Msg} {q q' : Q} {ch : Choice}
  {resp : Resp}

theorem trimWS_empty : trimWS "" = "" := Hk.trimWS_empty

/-- `normalizeLeaseIDs` (HTTP layer, batch branch) is `Hk.normIds` -/
theorem normIds_trimmed (ids : List String) : ∀ raw ∈ normIds ids, trimWS raw = raw := by
  intro raw h
  unfold normIds at h
  rw [List.mem_eraseDups] at h
  simp only [List.mem_filter, List.mem_map] at h
  obtain ⟨⟨x, _, rfl⟩, _⟩ := h
  exact trimWS_idem x

/-- somebody holds lease `l` unexpired (the positive twin of `NotHeld`) -/
def Held (now : Int) (l : String) (ms : List Msg) : Prop :=
  ∃ m ∈ ms, m.st = .leased ∧ m.lease = l ∧ now < m.luntil

theorem leaseOne_ok (h : (leaseOne c now k l ms).2 = none) :
    Held now l ms ∧
    (leaseOne c now k l ms).1 =
      ms.filterMap (fun x => if holds l x then applyLease c now k x else some x) := by
  rcases leaseOne_cases c now k l ms with ⟨_, he⟩ | ⟨_, _, _, _, _, he⟩ | ⟨_, m, hm, hh, hlt, he⟩
  · rw [he] at h; cases h
  · rw [he] at h; cases h
  · exact ⟨⟨m, hm, (holds_iff.1 hh).1, (holds_iff.1 hh).2, hlt⟩, by rw [he]⟩

/-- ack / nack / mark-dead never leave a message leased, so whoever is leased afterwards was there
    (unchanged) before -/
theorem leaseOne_leased_back (hk : ∀ d, k ≠ .extend d) {x : Msg}
    (hx : x ∈ (leaseOne c now k l ms).1) (hst : x.st = .leased) : x ∈ ms := by
  obtain ⟨y, hy, rfl | ⟨_, rfl | ha⟩⟩ := mem_leaseOne hx
  · exact hy
  · cases hst
  · obtain ⟨d, hd, _⟩ := applyLease_leased ha hst
    exact absurd hd (hk d)

def NotHeld (now : Int) (l : String) (ms : List Msg) : Prop :=
  ∀ m ∈ ms, ¬ (m.st = .leased ∧ m.lease = l ∧ now < m.luntil)

def releaseExpired (now : Int) (l : String) (ms : List Msg) : List Msg :=
  ms.map (fun m => if holds l m && expired now m then release now m else m)

theorem leaseOne_stale (hl : l ≠ "") (hno : NotHeld now l ms) :
    ∃ e, (e = .leaseNotFound ∨ e = .leaseExpired) ∧
      leaseOne c now k l ms = (releaseExpired now l ms, some e) := by
  -- every holder is expired, so `releaseExpired` releases every holder
  have hmap : releaseExpired now l ms = ms.map (fun x => if holds l x then release now x else x) := by
    apply List.map_congr_left
    intro x hx
    cases hh : holds l x with
    | false => rfl
    | true =>
      have hst := holds_iff.1 hh
      have hn : ¬ now < x.luntil := fun hlt => hno x hx ⟨hst.1, hst.2, hlt⟩
      simp [expired, hst.1, Int.not_lt.1 hn]
  rcases leaseOne_cases c now k l ms with ⟨hnone, he⟩ | ⟨_, _, _, _, _, he⟩ | ⟨_, m, hm, hh, hlt, _⟩
  · refine ⟨_, .inl rfl, ?_⟩
    rw [he, hmap]
    congr 1
    exact ((List.map_congr_left fun x hx =>
      if_neg (Bool.eq_false_iff.1 (hnone.resolve_left hl x hx))).trans (List.map_id' ms)).symm
  · exact ⟨_, .inr rfl, by rw [he, hmap]⟩
  · exact absurd ⟨(holds_iff.1 hh).1, (holds_iff.1 hh).2, hlt⟩ (hno m hm)

theorem releaseExpired_spec (now : Int) (l : String) (ms : List Msg) :
    (releaseExpired now l ms).length = ms.length ∧
    ∀ m' ∈ releaseExpired now l ms, m' ∈ ms ∨
      ∃ m ∈ ms, m.st = .leased ∧ m.lease = l ∧ m.luntil ≤ now ∧ m' = release now m := by
  constructor
  · simp [releaseExpired]
  · intro m' hm'
    simp only [releaseExpired, List.mem_map] at hm'
    obtain ⟨m, hm, rfl⟩ := hm'
    split
    · rename_i hc
      simp only [Bool.and_eq_true, expired, decide_eq_true_eq] at hc
      have := holds_iff.1 hc.1
      exact .inr ⟨m, hm, this.1, this.2, hc.2.2, rfl⟩
    · exact .inl hm

/-- the (trimmed) ids of a store batch whose individual lease mutation SUCCEEDED, in order -/
def batchOk (c : Cfg) (now : Int) (k : LeaseKind) : List String → List Msg → List String
  | [], _ => []
  | raw :: rest, ms =>
    if trimWS raw == "" then batchOk c now k rest ms else
    match (leaseOne c now k (trimWS raw) ms).2 with
    | none => trimWS raw :: batchOk c now k rest (leaseOne c now k (trimWS raw) ms).1
    | some _ => batchOk c now k rest (leaseOne c now k (trimWS raw) ms).1

/-- the fold's answer in terms of `batchOk`: every id of a batch either counts in `succeeded` or is reported among
    the conflicts this batch adds, a non-blank id under its TRIMMED form, a blank id as given -/
theorem fold_spec (c : Cfg) (now : Int) (k : LeaseKind) (ls : List String) :
    ∀ (ms : List Msg) (n : Nat) (cs : List Conflict),
      (leaseBatchFold c now k ls ms n cs).2.1 = n + (batchOk c now k ls ms).length ∧
      ∃ new, (leaseBatchFold c now k ls ms n cs).2.2 = cs ++ new ∧
        ∀ raw ∈ ls, trimWS raw ∈ batchOk c now k ls ms ∨
          (if trimWS raw = "" then raw else trimWS raw) ∈ new.map (·.lease) := by
  induction ls with
  | nil => exact fun _ _ cs => ⟨rfl, [], (List.append_nil cs).symm, nofun⟩
  | cons x rest ih =>
    intro ms n cs
    rw [leaseBatchFold_cons, batchOk]
    by_cases hb : trimWS x = ""
    · rw [if_pos hb, if_pos (beq_iff_eq.2 hb)]
      obtain ⟨hn, new, hcs, hcov⟩ := ih ms n (cs ++ [⟨x, false⟩])
      exact ⟨hn, ⟨x, false⟩ :: new, by rw [hcs, List.append_assoc]; rfl, List.forall_mem_cons.2
        ⟨.inr (by rw [if_pos hb]; exact List.mem_cons_self), fun raw hr => (hcov raw hr).imp_right (.tail _)⟩⟩
    · rw [if_neg hb, if_neg (mt beq_iff_eq.1 hb)]
      cases (leaseOne c now k (trimWS x) ms).2 with
      | none =>
        obtain ⟨hn, new, hcs, hcov⟩ := ih (leaseOne c now k (trimWS x) ms).1 (n + 1) cs
        exact ⟨by rw [hn, List.length_cons]; omega, new, hcs, List.forall_mem_cons.2
          ⟨.inl List.mem_cons_self, fun raw hr => (hcov raw hr).imp_left (.tail _)⟩⟩
      | some e =>
        obtain ⟨hn, new, hcs, hcov⟩ := ih (leaseOne c now k (trimWS x) ms).1 n
          (cs ++ [⟨trimWS x, decide (e = .leaseExpired)⟩])
        exact ⟨hn, ⟨trimWS x, _⟩ :: new, by rw [hcs, List.append_assoc]; rfl, List.forall_mem_cons.2
          ⟨.inr (by rw [if_neg hb]; exact List.mem_cons_self), fun raw hr => (hcov raw hr).imp_right (.tail _)⟩⟩

theorem batchOk_held (hk : ∀ d, k ≠ .extend d) (ls : List String) :
    ∀ (ms : List Msg), l ∈ batchOk c now k ls ms → Held now l ms := by
  induction ls with
  | nil => exact fun _ h => nomatch h
  | cons raw rest ih =>
    intro ms h
    have back : l ∈ batchOk c now k rest (leaseOne c now k (trimWS raw) ms).1 → Held now l ms := fun h =>
      have ⟨m, hm, hst, hl⟩ := ih _ h
      ⟨m, leaseOne_leased_back hk hm hst, hst, hl⟩
    rw [batchOk] at h
    split at h
    · exact ih ms h
    · split at h
      next ho =>
        rcases List.mem_cons.1 h with rfl | h
        · exact (leaseOne_ok ho).1
        · exact back h
      · exact back h

/-- on an id that is already trimmed the two backends agree: memory looks the id up as given, SQLite trims
    it first -/
theorem step_lease_eq (hk : ∀ d, k = .extend d → 0 < d) (hl : trimWS l = l) :
    Hk.step c now q (.lease k l) ch =
      some ({ q with msgs := (leaseOne c now k l q.msgs).1 }, leaseResp (leaseOne c now k l q.msgs).2) := by
  have hl' : (if c.memory = true then l else trimWS l) = l := by rw [hl, ite_self]
  cases k with
  | extend d => simp only [step, Int.not_le.2 (hk d rfl), hl']; rfl
  | _ => simp only [step, hl']; rfl

theorem step_lease_ok (hk : ∀ d, k = .extend d → 0 < d) (hl : trimWS l = l)
    (h : Hk.step c now q (.lease k l) ch = some (q', .ok)) :
    Held now l q.msgs ∧
    q'.msgs = q.msgs.filterMap (fun x => if holds l x then applyLease c now k x else some x) := by
  rw [step_lease_eq hk hl] at h
  injection h with h
  injection h with hq hr
  cases ho : (leaseOne c now k l q.msgs).2 with
  | none => exact ⟨(leaseOne_ok ho).1, hq ▸ (leaseOne_ok ho).2⟩
  | some e => rw [ho] at hr; cases hr

theorem step_leaseBatch_eq (c : Cfg) (now : Int) (q : Q) (k : LeaseKind) (ls : List String) (ch : Choice) :
    Hk.step c now q (.leaseBatch k ls) ch =
      some ({ q with msgs := (leaseBatchFold c now k ls q.msgs 0 []).1 },
            .batch (leaseBatchFold c now k ls q.msgs 0 []).2.1 (leaseBatchFold c now k ls q.msgs 0 []).2.2) :=
  rfl

theorem legalPicks_spec {route target : String} {b : Int} {picks : List (String × String)}
    (h : legalPicks now route target b q picks = true) :
    picks.length ≤ effBatch b ∧ (picks.map (·.1)).Nodup ∧
    ∀ p ∈ picks, ∃ m ∈ q.msgs, m.st = .queued ∧ m.id = p.1 := by
  obtain ⟨hlen, hnd, _, hall⟩ := legalPicks_iff.1 h
  refine ⟨hlen ▸ Nat.min_le_left _ _, hnd, fun p hp => ?_⟩
  obtain ⟨⟨m, hm, hrdy, hid⟩, _⟩ := hall p hp
  exact ⟨m, hm, (ready_iff.1 hrdy).1, hid⟩

theorem step_dequeue {route target : String} {b t : Int}
    (h : Hk.step c now q (.dequeue route target b t) ch = some (q', resp)) :
    ∃ q0, Hk.prune c now q ch.gone = some q0 ∧
      legalPicks now route target b (sweep c now q0) ch.picks = true ∧
      q'.msgs = (sweep c now q0).msgs.map (grant now (effTTL t) ch.picks) ∧ resp = .items ch.picks := by
  cases step_view h with
  | dequeue hp hl => exact ⟨_, hp, hl, rfl, rfl⟩

theorem step_dequeue_lease_end {route target : String} {b t : Int}
    (h : Hk.step c now q (.dequeue route target b t) ch = some (q', resp)) :
    ∀ p ∈ ch.picks, ∃ m' ∈ q'.msgs, m'.id = p.1 ∧ m'.st = .leased ∧ m'.lease = p.2 ∧
      m'.luntil = now + effTTL t := by
  obtain ⟨q0, -, hlegal, hq', -⟩ := step_dequeue h
  obtain ⟨-, hnd, hall⟩ := legalPicks_spec hlegal
  intro p hp
  obtain ⟨m, hm, hq, hid⟩ := hall p hp
  refine ⟨_, hq' ▸ List.mem_map_of_mem hm, ?_⟩
  rw [grant_of_pick hnd hp hid hq]
  exact ⟨hid, rfl, rfl, rfl⟩

theorem step_dequeue_ids {route target : String} {b t : Int}
    (h : Hk.step c now q (.dequeue route target b t) ch = some (q', resp)) :
    (q'.msgs.map (·.id)).Sublist (q.msgs.map (·.id)) := by
  obtain ⟨q0, hp, -, hq', -⟩ := step_dequeue h
  simp only [hq', List.map_map, Function.comp_def, grant_id]
  rw [sweep_ids]
  exact (prune_sublist hp).1.map _

theorem effBatch_le {b : Int} (hb : 1 ≤ b) : (effBatch b : Int) ≤ b ∧ effBatch b ≤ 100 := by
  unfold effBatch
  rw [if_neg (by omega)]
  split <;> omega

/-- the store's own default lease length (30 s), used for a non-positive TTL -/
def storeDefaultTTL : Int := 30000000000

theorem effTTL_of_pos {t : Int} (h : 0 < t) : effTTL t = t :=
  if_neg (Int.not_le.2 h)

theorem effTTL_of_nonpos {t : Int} (h : t ≤ 0) : effTTL t = storeDefaultTTL :=
  if_pos h

end Hk.PullOps
