import HkModel.Proofs.Lookup
/-!
  What each building block of `Hk.step` does, stated once: the retention prune, the lease sweep, the enqueue
  core, the grant of a dequeue, one lease operation and a batch of them, the operator update — and `StepView`,
  the case analysis of `step` itself. The property proofs of the queue family (`Proofs/C02Model` … `C14Model`)
  rest on these and never walk through `step`, `prune`, `enqueueCore`, `leaseOne`, the batch fold or `grant` again
  (one-line definitions such as `applyLease`, `operate`, `mkMsg` are unfolded where a proof needs their fields).
-/
namespace Hk
open Hk.Obs

theorem trimWS_idem (s : String) : trimWS (trimWS s) = trimWS s := by
  unfold trimWS
  rw [String.toList_ofList, Scan.trimList_idem]

theorem trimWS_empty : trimWS "" = "" := by
  simp [trimWS]

theorem holds_iff {l : String} {x : Msg} : holds l x = true ↔ x.st = .leased ∧ x.lease = l := by
  simp [holds]

theorem expired_iff {now : Int} {m : Msg} : expired now m = true ↔ m.st = .leased ∧ m.luntil ≤ now := by
  simp [expired]

theorem applyLease_id {c : Cfg} {now : Int} {k : LeaseKind} {x y : Msg}
    (h : applyLease c now k x = some y) : y.id = x.id := by
  cases k <;> simp only [applyLease] at h
  · split at h <;> cases h; rfl
  all_goals (cases h; rfl)

theorem applyLease_cases {c : Cfg} {now : Int} {k : LeaseKind} {x y : Msg} (h : applyLease c now k x = some y) :
    (y.st ≠ .leased ∧ y.lease = "") ∨ ∃ d, k = .extend d ∧ y = { x with luntil := x.luntil + d, next := x.luntil + d } := by
  cases k <;> simp only [applyLease] at h
  · split at h <;> cases h; exact .inl ⟨by simp, rfl⟩
  · cases h; exact .inl ⟨by simp, rfl⟩
  · cases h; exact .inr ⟨_, rfl, rfl⟩
  · cases h; exact .inl ⟨by simp, rfl⟩

theorem applyLease_leased {c : Cfg} {now : Int} {k : LeaseKind} {x y : Msg}
    (h : applyLease c now k x = some y) (hy : y.st = .leased) :
    ∃ d, k = .extend d ∧ y = { x with luntil := x.luntil + d, next := x.luntil + d } :=
  (applyLease_cases h).resolve_left fun h' => h'.1 hy

theorem operate_some {now : Int} {k : IdKind} {m y : Msg} (h : operate now k m = some y) :
    y = { m with st := targetState k, lease := "", luntil := 0, next := now, reason := "" } := by
  cases k <;> simp [operate] at h <;> exact h.symm

theorem operate_none {now : Int} {k : IdKind} {m : Msg} (h : operate now k m = none) : k = .deleteDead := by
  cases k <;> simp [operate] at h <;> rfl

theorem targetState_ne_leased (k : IdKind) : targetState k ≠ .leased := by cases k <;> simp [targetState]

/-- the pointwise form of `applyIds` -/
def opf (now : Int) (k : IdKind) (ids : List String) (m : Msg) : Option Msg :=
  if selectedBy k ids m then operate now k m else some m

theorem applyIds_eq (now : Int) (k : IdKind) (ids : List String) (ms : List Msg) :
    applyIds now k ids ms = ms.filterMap (opf now k ids) := rfl

theorem opf_cases {now : Int} {k : IdKind} {ids : List String} {m y : Msg} (h : opf now k ids m = some y) :
    y = m ∨ (selectedBy k ids m = true ∧ operate now k m = some y) := by
  unfold opf at h
  split at h
  · exact .inr ⟨‹_›, h⟩
  · cases h; exact .inl rfl

theorem opf_id (now : Int) (k : IdKind) (ids : List String) : ∀ a b, opf now k ids a = some b → b.id = a.id := by
  intro a b h
  rcases opf_cases h with rfl | ⟨_, h⟩
  · rfl
  · rw [operate_some h]

theorem effTTL_pos (ttl : Int) : 0 < effTTL ttl := by
  unfold effTTL; split <;> omega

theorem countP_split (l : List Msg) (keep p : Msg → Bool) :
    (l.filter (fun m => !keep m && p m)).length + countP p (l.filter keep) = countP p l := by
  rw [countP_eq, countP_eq, List.countP_eq_countP_filter_add l p keep, Nat.add_comm]
  congr 1
  rw [List.countP_eq_length_filter, List.filter_filter]
  simp only [Bool.and_comm]

theorem countP_removeIds (p : Msg → Bool) (v : List String) (ms : List Msg) :
    countP p (removeIds p v ms) + (ms.filter (fun m => p m && v.contains m.id)).length = countP p ms := by
  rw [← countP_split ms (fun m => !(p m && v.contains m.id)) p, Nat.add_comm]
  exact congrArg (List.length · + _) (List.filter_congr fun m _ => by cases p m <;> simp)

theorem legalOldest_spec {p : Msg → Bool} {ms : List Msg} {victims : List String} {n : Nat}
    (h : legalOldest p ms victims n = true) :
    (ms.filter (fun m => p m && victims.contains m.id)).length = n ∧
    ∀ v ∈ ms, p v = true → victims.contains v.id = true →
      ∀ s ∈ removeIds p victims ms, p s = true → v.recv ≤ s.recv := by
  simp only [legalOldest, Bool.and_eq_true, beq_iff_eq, List.all_eq_true, decide_eq_true_eq, List.filter_filter,
    List.mem_filter, Bool.not_eq_true'] at h
  refine ⟨by simpa only [Bool.and_comm] using h.1, fun v hv hpv hvv s hs hps => h.2 v ⟨hv, hvv, hpv⟩ s ?_⟩
  simp only [removeIds, List.mem_filter, hps, Bool.not_eq_eq_eq_not] at hs
  exact ⟨hs.1, hs.2, hps⟩

/-- why the prune drops `m` (`ms` ↦ `ms'`): old enough for its state, or dead in an over-full DLQ with no
    older dead message surviving (known of members only: `prune_spec` speaks of every `m` its filter rejects) -/
def PruneWhy (c : Cfg) (now : Int) (ms ms' : List Msg) (m : Msg) : Prop :=
  pruneConfigured c = true ∧
  (ageEligible c now m = true ∨
   (m.st = .dead ∧ c.dlqDepth > 0 ∧ countP isDead ms > c.dlqDepth ∧ countP isDead ms' ≥ c.dlqDepth ∧
     (m ∈ ms → ∀ s ∈ ms', s.st = .dead → m.recv ≤ s.recv)))

theorem PruneWhy.age {c : Cfg} {now : Int} {ms ms' : List Msg} {m : Msg} (h : PruneWhy c now ms ms' m)
    (hd : m.st ≠ .dead) : pruneConfigured c = true ∧ ageEligible c now m = true :=
  ⟨h.1, h.2.resolve_right fun hdd => hd hdd.1⟩

theorem pruneAllowed_of_age {r : Rec} {m : Msg} (hop : prunes r.op = true) (hcfg : pruneConfigured r.cfg = true)
    (hage : ageEligible r.cfg r.now m = true) : pruneAllowed r m = true := by
  simp [pruneAllowed, hop, hcfg, hage]

theorem countP_filter_le (p keep : Msg → Bool) (ms : List Msg) : countP p (ms.filter keep) ≤ countP p ms := by
  rw [countP_eq, countP_eq, List.countP_filter]
  exact List.countP_mono_left fun x _ hx => (Bool.and_eq_true_iff.1 hx).1

theorem prune_spec {c : Cfg} {now : Int} {q q1 : Q} {gone : List String} (h : prune c now q gone = some q1) :
    ∃ keep : Msg → Bool, q1.msgs = q.msgs.filter keep ∧ q1.lastSweep = q.lastSweep ∧ q1.issued = q.issued ∧
      ∀ m, keep m = false → PruneWhy c now q.msgs q1.msgs m := by
  unfold prune at h
  split at h
  next hgate =>
    have hcfg : pruneConfigured c = true := (Bool.and_eq_true_iff.1 hgate).1
    simp only at h
    split at h
    next hdepth =>
      split at h
      next hlegal =>
        cases h
        refine ⟨fun m => !(isDead m && gone.contains m.id) && !ageEligible c now m,
          by simp only [removeIds, List.filter_filter], rfl, rfl, fun m hk => ⟨hcfg, ?_⟩⟩
        cases hage : ageEligible c now m with
        | true => exact .inl rfl
        | false =>
          simp only [hage, Bool.not_false, Bool.and_true, Bool.not_eq_eq_eq_not, Bool.and_eq_true] at hk
          obtain ⟨hcnt, hold⟩ := legalOldest_spec hlegal
          simp only [Bool.and_eq_true, decide_eq_true_eq] at hdepth
          have hle := countP_filter_le isDead (fun m => !ageEligible c now m) q.msgs
          have hrem := countP_removeIds isDead gone (q.msgs.filter fun m => !ageEligible c now m)
          refine .inr ⟨by simpa [isDead] using hk.1, hdepth.1, by omega, by show countP isDead (removeIds ..) ≥ _; omega,
            fun hm s hs hsd => ?_⟩
          exact hold m (List.mem_filter.2 ⟨hm, by simp [hage]⟩) hk.1 hk.2 s hs (by simpa [isDead] using hsd)
      next => cases h
    next =>
      cases h
      exact ⟨fun m => !ageEligible c now m, rfl, rfl, rfl, fun m hk => ⟨hcfg, .inl (by simpa using hk)⟩⟩
  next =>
    cases h
    exact ⟨fun _ => true, (List.filter_eq_self.2 fun _ _ => rfl).symm, rfl, rfl, fun m hk => by cases hk⟩

theorem prune_sublist {c : Cfg} {now : Int} {q q1 : Q} {gone : List String} (h : prune c now q gone = some q1) :
    q1.msgs.Sublist q.msgs ∧ q1.lastSweep = q.lastSweep ∧ q1.issued = q.issued := by
  obtain ⟨keep, hq1, hl, hi, _⟩ := prune_spec h
  exact ⟨hq1 ▸ List.filter_sublist, hl, hi⟩

theorem prune_keeps {c : Cfg} {now : Int} {q q1 : Q} {gone : List String} (h : prune c now q gone = some q1)
    {m : Msg} (hm : m ∈ q.msgs) (hd : m.st ≠ .dead) (hage : pruneConfigured c = true → ageEligible c now m = false) :
    m ∈ q1.msgs := by
  obtain ⟨keep, hq1, _, _, hwhy⟩ := prune_spec h
  rw [hq1]
  refine List.mem_filter.2 ⟨hm, ?_⟩
  cases hk : keep m with
  | true => rfl
  | false =>
    obtain ⟨hcfg, ha⟩ := (hwhy m hk).age hd
    rw [hage hcfg] at ha
    cases ha

theorem withPrune_some {c : Cfg} {now : Int} {q : Q} {ch : Choice} {k : Q → Option (Q × Resp)} {x : Q × Resp}
    (h : withPrune c now q ch k = some x) : ∃ q1, prune c now q ch.gone = some q1 ∧ k q1 = some x := by
  unfold withPrune at h
  split at h
  · cases h
  · exact ⟨_, ‹_›, h⟩

/-- the pointwise effect of `sweep` (the identity while the sweep gate is closed) -/
def swf (c : Cfg) (now ls : Int) (m : Msg) : Msg :=
  if (decide (c.sweep ≤ 0) || decide (now - ls ≥ c.sweep)) && expired now m then release now m else m

theorem sweep_msgs (c : Cfg) (now : Int) (q : Q) : (sweep c now q).msgs = q.msgs.map (swf c now q.lastSweep) := by
  unfold sweep swf
  split
  · simp [sweepMsgs, *]
  · simp [*]

theorem sweep_cases (c : Cfg) (now : Int) (q : Q) :
    sweep c now q = q ∨ sweep c now q = { q with msgs := sweepMsgs now q.msgs, lastSweep := now } := by
  unfold sweep; split
  · exact .inr rfl
  · exact .inl rfl

theorem sweep_issued (c : Cfg) (now : Int) (q : Q) : (sweep c now q).issued = q.issued := by
  rcases sweep_cases c now q with h | h <;> rw [h]

/-- a lease-expiry sweep, possibly skipped -/
def SwLike (now : Int) (f : Msg → Msg) : Prop :=
  ∀ m, f m = m ∨ (expired now m = true ∧ f m = release now m)

theorem SwLike_id_eq {now : Int} {f : Msg → Msg} (hf : SwLike now f) (m : Msg) : (f m).id = m.id := by
  rcases hf m with h | ⟨_, h⟩ <;> rw [h]; rfl

theorem swf_cases (c : Cfg) (now ls : Int) : SwLike now (swf c now ls) := by
  intro m
  unfold swf
  split
  · exact .inr ⟨(Bool.and_eq_true_iff.1 ‹_›).2, rfl⟩
  · exact .inl rfl

theorem swf_id (c : Cfg) (now ls : Int) (m : Msg) : (swf c now ls m).id = m.id :=
  SwLike_id_eq (swf_cases c now ls) m

theorem sweep_ids (c : Cfg) (now : Int) (q : Q) : (sweep c now q).msgs.map (·.id) = q.msgs.map (·.id) := by
  simp [sweep_msgs, swf_id]

theorem needEvict_pos {c : Cfg} {ms : List Msg} {k : Nat} {single : Bool}
    (h : needEvict c ms k single > 0) : c.maxDepth > 0 := by
  unfold needEvict at h
  split at h
  · cases h
  next hz => simp at hz; omega

theorem refusals_nil {c : Cfg} {ms : List Msg} {es : List Env} {single : Bool} {victims : List String}
    (h : (refusals c ms es single victims).isEmpty = true) :
    (needEvict c ms es.length single > 0 → c.dropOldest = true) ∧ (es.map (·.id)).Nodup ∧
      ∀ e ∈ es, ∀ y ∈ removeIds isQueued victims ms, y.id ≠ e.id := by
  simp only [refusals, List.isEmpty_iff, List.append_eq_nil_iff, ite_eq_right_iff, List.cons_ne_nil, imp_false,
    Bool.not_eq_true] at h
  obtain ⟨⟨hfull, _⟩, hdup⟩ := h
  rw [hfull, Bool.or_eq_false_iff] at hdup
  refine ⟨fun hpos => (by simpa [hpos] using hfull : _ ∧ _).1, (dupIds_false_iff _).1 hdup.1, fun e he y hy hye => ?_⟩
  have := List.any_eq_false.1 hdup.2 e he
  simp only [hasId, List.any_eq_true, beq_iff_eq, not_exists, not_and] at this
  exact this y hy hye

/-- `enqueueCore` refuses and changes nothing, or drops the chosen oldest queued messages (those with
    `keep = false`, as many as needed) and appends the new ones -/
theorem enqueueCore_spec {c : Cfg} {now : Int} {q q' : Q} {es : List Env} {single : Bool} {ch : Choice} {r : Resp}
    (h : enqueueCore c now q es single ch = some (q', r)) :
    (q' = q ∧ ∃ e, r = .err e) ∨
    (r = (if single then .ok else .enqueued es.length) ∧
     ∃ keep : Msg → Bool, q' = { q with msgs := q.msgs.filter keep ++ es.map (mkMsg now) } ∧
       (es.map (·.id)).Nodup ∧ (∀ e ∈ es, ∀ y ∈ q.msgs.filter keep, y.id ≠ e.id) ∧
       (∀ m, keep m = false → isQueued m = true) ∧
       (q.msgs.filter (fun m => !keep m)).length = needEvict c q.msgs es.length single ∧
       (needEvict c q.msgs es.length single > 0 → c.dropOldest = true) ∧
       ∀ x ∈ q.msgs, keep x = false → ∀ s ∈ q.msgs.filter keep, isQueued s = true → x.recv ≤ s.recv) := by
  unfold enqueueCore at h
  dsimp only at h
  -- stated before the two `generalize`s, which then rewrite it along with the goal
  have hnil := @refusals_nil c q.msgs es single
  generalize hneed : needEvict c q.msgs es.length single = need at h hnil ⊢
  generalize hvict : (if (decide (need > 0) && c.dropOldest) = true then ch.gone else []) = victims at h
  by_cases hrs : (refusals c q.msgs es single victims).isEmpty = true
  · obtain ⟨hdrop, hnd, hfresh⟩ := hnil hrs
    rw [if_pos hrs] at h
    right
    by_cases hpos : need > 0
    · -- the victims are dropped, if they are a legal choice
      rw [if_pos hpos] at h
      split at h
      next hlegal =>
        cases h
        obtain ⟨hcnt, hold⟩ := legalOldest_spec hlegal
        have hk : ∀ m, (!(isQueued m && victims.contains m.id)) = false →
            isQueued m = true ∧ victims.contains m.id = true := fun m h => by simpa using h
        exact ⟨rfl, fun m => !(isQueued m && victims.contains m.id), rfl, hnd, hfresh, fun m hm => (hk m hm).1,
          by simpa only [Bool.not_not] using hcnt, hdrop, fun x hx hkx => hold x hx (hk x hkx).1 (hk x hkx).2⟩
      · cases h
    · -- room enough: nothing is dropped
      rw [if_neg hpos] at h
      cases h
      obtain rfl : victims = [] := by rw [← hvict]; simp [hpos]
      exact ⟨rfl, fun _ => true, by rw [List.filter_eq_self.2 fun _ _ => rfl], hnd, by simpa [removeIds] using hfresh,
        fun _ hk => Bool.noConfusion hk, by rw [Nat.eq_zero_of_not_pos hpos]; simp, hdrop, fun _ _ hk => Bool.noConfusion hk⟩
  · rw [if_neg hrs] at h
    left
    split at h <;> split at h <;> cases h <;> exact ⟨rfl, _, rfl⟩

/-- under a depth limit at least the active messages above it have to go; exactly those unless the memory
    backend also counts delivered messages it retains -/
theorem needEvict_spec (c : Cfg) (ms : List Msg) (k : Nat) (single : Bool) (hd : c.maxDepth ≠ 0) :
    countP isActive ms + k - c.maxDepth ≤ needEvict c ms k single ∧
    ((c.memory && decide (c.deliveredRet > 0)) = false →
      needEvict c ms k single = countP isActive ms + k - c.maxDepth) := by
  unfold needEvict
  rw [if_neg (by simpa using hd)]
  split
  next hm =>
    refine ⟨Nat.le_max_left .., fun h => ?_⟩
    rw [hm, Bool.true_and, decide_eq_false_iff_not] at h
    rw [if_neg h, Nat.max_eq_left (Nat.zero_le _)]
  · exact ⟨Nat.le_refl _, fun _ => rfl⟩

/-- `m` leased under `l` by a dequeue at `now` for `ttl` -/
def leasedAs (now ttl : Int) (l : String) (m : Msg) : Msg :=
  { m with st := .leased, attempt := m.attempt + 1, lease := l, luntil := now + ttl, next := now + ttl }

theorem grant_cases (now ttl : Int) (picks : List (String × String)) (m : Msg) :
    grant now ttl picks m = m ∨
    ∃ p ∈ picks, p.1 = m.id ∧ m.st = .queued ∧ grant now ttl picks m = leasedAs now ttl p.2 m := by
  unfold grant leaseFor
  cases hf : picks.find? (·.1 == m.id) with
  | none => exact .inl rfl
  | some p =>
    by_cases hst : m.st = .queued
    · exact .inr ⟨p, List.mem_of_find?_eq_some hf, by simpa using List.find?_some hf, hst, by simp [hst, leasedAs]⟩
    · exact .inl (by simp [hst])

theorem grant_id (now ttl : Int) (picks : List (String × String)) (m : Msg) : (grant now ttl picks m).id = m.id := by
  rcases grant_cases now ttl picks m with h | ⟨p, _, _, _, h⟩ <;> rw [h] <;> rfl

theorem leaseFor_of_mem {picks : List (String × String)} (hnd : (picks.map (·.1)).Nodup)
    {p : String × String} (hp : p ∈ picks) : leaseFor picks p.1 = some p.2 := by
  rw [leaseFor, List.find?_eq_some_of_unique (p := (·.1 == p.1)) hp (beq_self_eq_true _) fun x hx hid =>
    eq_of_map_eq hnd hx hp (beq_iff_eq.1 hid)]
  rfl

theorem grant_of_pick {now ttl : Int} {picks : List (String × String)} (hnd : (picks.map (·.1)).Nodup)
    {p : String × String} (hp : p ∈ picks) {m : Msg} (hid : m.id = p.1) (hq : m.st = .queued) :
    grant now ttl picks m = leasedAs now ttl p.2 m := by
  simp [grant, hid, leaseFor_of_mem hnd hp, hq, leasedAs]

theorem ready_iff {now : Int} {route target : String} {m : Msg} :
    ready now route target m = true ↔ m.st = .queued ∧ C03.matchesReq route target m = true ∧ m.next ≤ now := by
  simp [ready, C03.matchesReq, and_assoc]

theorem legalPicks_iff {now : Int} {route target : String} {batch : Int} {q : Q} {picks : List (String × String)} :
    legalPicks now route target batch q picks = true ↔
      picks.length = min (effBatch batch) (q.msgs.filter (ready now route target)).length ∧
      (picks.map (·.1)).Nodup ∧ (picks.map (·.2)).Nodup ∧
      ∀ p ∈ picks, (∃ m ∈ q.msgs, ready now route target m = true ∧ m.id = p.1) ∧ p.2 ≠ "" ∧ p.2 ∉ q.issued ∧
        ∀ m ∈ q.msgs, m.lease ≠ p.2 := by
  simp only [legalPicks, Bool.and_eq_true, beq_iff_eq, nodupStr_iff, List.all_eq_true, List.any_eq_true,
    List.mem_filter, Bool.not_eq_true', List.any_eq_false, List.contains_eq_mem, decide_eq_false_iff_not,
    decide_eq_true_eq, and_assoc]

theorem due_of_ready {now : Int} {route target : String} {m m1 : Msg}
    (hrel : m1 = m ∨ (expired now m = true ∧ m1 = release now m)) (h : ready now route target m1 = true) :
    C03.matchesReq route target m = true ∧ ((m.st = .queued ∧ m.next ≤ now) ∨ expired now m = true) := by
  obtain ⟨hq, hr, hn⟩ := ready_iff.1 h
  rcases hrel with rfl | ⟨he, rfl⟩
  · exact ⟨hr, .inl ⟨hq, hn⟩⟩
  · exact ⟨hr, .inr he⟩

/-- the three outcomes of one lease operation: unknown id (nothing changes), the holder's lease has run out
    (it is released), the holder's lease is live (the operation is applied to it) -/
theorem leaseOne_cases (c : Cfg) (now : Int) (k : LeaseKind) (l : String) (ms : List Msg) :
    ((l = "" ∨ ∀ m ∈ ms, holds l m = false) ∧ leaseOne c now k l ms = (ms, some .leaseNotFound)) ∨
    (l ≠ "" ∧ ∃ m ∈ ms, holds l m = true ∧ m.luntil ≤ now ∧
      leaseOne c now k l ms = (ms.map (fun x => if holds l x then release now x else x), some .leaseExpired)) ∨
    (l ≠ "" ∧ ∃ m ∈ ms, holds l m = true ∧ now < m.luntil ∧
      leaseOne c now k l ms = (ms.filterMap (fun x => if holds l x then applyLease c now k x else some x), none)) := by
  unfold leaseOne
  by_cases hl : l = ""
  · exact .inl ⟨.inl hl, by rw [if_pos (by rw [hl]; rfl)]⟩
  · rw [if_neg (by simpa using hl)]
    cases hf : ms.find? (holds l) with
    | none => exact .inl ⟨.inr (by simpa using hf), rfl⟩
    | some m =>
      have hm := List.mem_of_find?_eq_some hf
      have hh := List.find?_some hf
      by_cases hle : m.luntil ≤ now
      · exact .inr (.inl ⟨hl, m, hm, hh, hle, if_pos hle⟩)
      · exact .inr (.inr ⟨hl, m, hm, hh, Int.not_le.1 hle, if_neg hle⟩)

theorem mem_leaseOne {c : Cfg} {now : Int} {k : LeaseKind} {l : String} {ms : List Msg} {y : Msg}
    (hy : y ∈ (leaseOne c now k l ms).1) :
    ∃ x ∈ ms, y = x ∨ (holds l x = true ∧ (y = release now x ∨ applyLease c now k x = some y)) := by
  rcases leaseOne_cases c now k l ms with ⟨_, h⟩ | ⟨_, _, _, _, _, h⟩ | ⟨_, _, _, _, _, h⟩ <;> rw [h] at hy
  · exact ⟨y, hy, .inl rfl⟩
  · obtain ⟨x, hx, rfl⟩ := List.mem_map.1 hy
    refine ⟨x, hx, ?_⟩
    split
    · exact .inr ⟨‹_›, .inl rfl⟩
    · exact .inl rfl
  · obtain ⟨x, hx, hxy⟩ := List.mem_filterMap.1 hy
    refine ⟨x, hx, ?_⟩
    split at hxy
    · exact .inr ⟨‹_›, .inr hxy⟩
    · cases hxy; exact .inl rfl

theorem leaseOne_ids_sublist (c : Cfg) (now : Int) (k : LeaseKind) (l : String) (ms : List Msg) :
    ((leaseOne c now k l ms).1.map (·.id)).Sublist (ms.map (·.id)) := by
  rcases leaseOne_cases c now k l ms with ⟨_, h⟩ | ⟨_, _, _, _, _, h⟩ | ⟨_, _, _, _, _, h⟩ <;> rw [h]
  · exact .refl _
  · simp [Function.comp_def, apply_ite Msg.id, release]
  · refine ids_filterMap_sublist (fun x y h => ?_) ms
    split at h
    · exact applyLease_id h
    · cases h; rfl

theorem leaseBatchFold_cons (c : Cfg) (now : Int) (k : LeaseKind) (raw : String) (rest : List String) (ms : List Msg)
    (n : Nat) (cs : List Conflict) :
    leaseBatchFold c now k (raw :: rest) ms n cs =
      if trimWS raw = "" then leaseBatchFold c now k rest ms n (cs ++ [⟨raw, false⟩]) else
      match (leaseOne c now k (trimWS raw) ms).2 with
      | none => leaseBatchFold c now k rest (leaseOne c now k (trimWS raw) ms).1 (n + 1) cs
      | some e => leaseBatchFold c now k rest (leaseOne c now k (trimWS raw) ms).1 n
          (cs ++ [⟨trimWS raw, decide (e = .leaseExpired)⟩]) := by
  rw [leaseBatchFold]
  by_cases hb : trimWS raw = ""
  · simp [hb]
  · simp only [beq_iff_eq, hb]
    generalize leaseOne c now k (trimWS raw) ms = p
    obtain ⟨ms', _ | e⟩ := p
    · rfl
    · cases e <;> rfl

theorem leaseBatchFold_induct {P : List Msg → Prop} (c : Cfg) (now : Int) (k : LeaseKind) (ls : List String)
    (hone : ∀ raw ∈ ls, ∀ ms, P ms → P (leaseOne c now k (trimWS raw) ms).1) :
    ∀ (ms : List Msg) (n : Nat) (cs : List Conflict), P ms → P (leaseBatchFold c now k ls ms n cs).1 := by
  induction ls with
  | nil => exact fun _ _ _ h => h
  | cons raw rest ih =>
    intro ms n cs h
    have ih' := ih fun r hr => hone r (List.mem_cons_of_mem _ hr)
    have h1 := hone raw (List.mem_cons_self ..) ms h
    rw [leaseBatchFold_cons]
    split
    · exact ih' _ _ _ h
    · split <;> exact ih' _ _ _ h1

/-- the record an observer of the model would write for one step -/
def modelRec (c : Cfg) (now : Int) (q : Q) (op : Op) (r : Resp) (q' : Q) : Rec :=
  { cfg := c, now := now, before := q.msgs, op := op, resp := r, after := q'.msgs, items := [] }

/-- the lease id a single lease operation looks up: verbatim on the memory backend, trimmed on SQLite -/
def lookupId (c : Cfg) (l0 : String) : String := if c.memory then l0 else trimWS l0

/-- on the memory backend a held id is stored trimmed, so the id looked up is the one the observer trims -/
theorem lookupId_eq {c : Cfg} {q : Q} {l0 : String}
    (hTrim : c.memory = true → ∀ m ∈ q.msgs, m.st = .leased → trimWS m.lease = m.lease) :
    ∀ m ∈ q.msgs, holds (lookupId c l0) m = true → lookupId c l0 = trimWS l0 := by
  intro m hm hh
  unfold lookupId at hh ⊢
  split at hh
  next hmem =>
    obtain ⟨hst, hl⟩ := holds_iff.1 hh
    rw [if_pos hmem, ← hl, hTrim hmem m hm hst]
  next hmem => rw [if_neg hmem]

def leaseResp : Option Err → Resp
  | none => .ok
  | some e => .err e

/-- One constructor per way `step c now q op ch` succeeds, with the new state and the response it yields (of a
    listing and of `stats` only the kind of response: no property speaks of their content). -/
inductive StepView (c : Cfg) (now : Int) (q : Q) (ch : Choice) : Op → Q → Resp → Prop
  | enqueue {e q1 q' r} : prune c now q ch.gone = some q1 → enqueueCore c now q1 [e] true ch = some (q', r) →
      StepView c now q ch (.enqueue e) q' r
  | enqueueNone : StepView c now q ch (.enqueueBatch []) q (.enqueued 0)
  | enqueueBatch {es q1 q' r} : es ≠ [] → prune c now q ch.gone = some q1 →
      enqueueCore c now q1 es false ch = some (q', r) → StepView c now q ch (.enqueueBatch es) q' r
  | dequeue {route target batch ttl q0} : prune c now q ch.gone = some q0 →
      legalPicks now route target batch (sweep c now q0) ch.picks = true →
      StepView c now q ch (.dequeue route target batch ttl)
        { sweep c now q0 with msgs := (sweep c now q0).msgs.map (grant now (effTTL ttl) ch.picks),
                              issued := (sweep c now q0).issued ++ ch.picks.map (·.2) } (.items ch.picks)
  | extendNoop {d l0} : d ≤ 0 → StepView c now q ch (.lease (.extend d) l0) q .ok
  | lease {k l0} : (∀ d, k = .extend d → 0 < d) →
      StepView c now q ch (.lease k l0) { q with msgs := (leaseOne c now k (lookupId c l0) q.msgs).1 }
        (leaseResp (leaseOne c now k (lookupId c l0) q.msgs).2)
  | leaseBatch {k ls} :
      StepView c now q ch (.leaseBatch k ls) { q with msgs := (leaseBatchFold c now k ls q.msgs 0 []).1 }
        (.batch (leaseBatchFold c now k ls q.msgs 0 []).2.1 (leaseBatchFold c now k ls q.msgs 0 []).2.2)
  | byIds {k ids} :
      StepView c now q ch (.byIds k ids) { q with msgs := applyIds now k (normIds ids) q.msgs }
        (.count (countP (selectedBy k (normIds ids)) q.msgs) (countP (selectedBy k (normIds ids)) q.msgs) false)
  | preview {k f} : f.preview = true →
      StepView c now q ch (.byFilter k f) q (.count 0 (selectFilter k f q.msgs).length true)
  | byFilter {k f} : f.preview = false →
      StepView c now q ch (.byFilter k f) { q with msgs := applyIds now k (selectFilter k f q.msgs) q.msgs }
        (.count (selectFilter k f q.msgs).length (selectFilter k f q.msgs).length false)
  | listBad {route target state order limit before q1} : prune c now q ch.gone = some q1 →
      StepView c now q ch (.list route target state order limit before) q1 (.err .badOrder)
  | list {route target state order limit before q1 l} : prune c now q ch.gone = some q1 →
      StepView c now q ch (.list route target state order limit before) q1 (.ids l)
  | listDead {route limit before q1 l} : prune c now q ch.gone = some q1 →
      StepView c now q ch (.listDead route limit before) q1 (.ids l)
  | stats {q1 t a b d e f} : prune c now q ch.gone = some q1 → StepView c now q ch .stats q1 (.stats t a b d e f)
  | lookup {ids} : StepView c now q ch (.lookup ids) q
      (.looked ((normIds ids).filterMap fun i => (q.msgs.find? (·.id == i)).map fun m => (m.id, m.route, m.st)))
  | restart : StepView c now q ch .restart { q with lastPrune := none, lastSweep := 0 } .ok

theorem step_view {c : Cfg} {now : Int} {q q' : Q} {op : Op} {ch : Choice} {r : Resp}
    (h : step c now q op ch = some (q', r)) : StepView c now q ch op q' r := by
  cases op with
  | enqueue e =>
    obtain ⟨q1, hp, hk⟩ := withPrune_some h
    exact .enqueue hp hk
  | enqueueBatch es =>
    simp only [step] at h
    split at h
    next he => cases h; rw [List.isEmpty_iff.1 he]; exact .enqueueNone
    next he =>
      obtain ⟨q1, hp, hk⟩ := withPrune_some h
      exact .enqueueBatch (fun h0 => he (by rw [h0]; rfl)) hp hk
  | dequeue route target batch ttl =>
    simp only [step] at h
    split at h
    · cases h
    next q1 hhk =>
      obtain ⟨q0, hq0, rfl⟩ := Option.map_eq_some_iff.1 hhk
      split at h <;> cases h
      exact .dequeue hq0 ‹_›
  | lease k l0 =>
    cases k with
    | extend d =>
      simp only [step] at h
      split at h <;> cases h
      · exact .extendNoop ‹_›
      · exact .lease fun d' hd' => by cases hd'; omega
    | _ => cases h; exact .lease fun _ hd' => by cases hd'
  | leaseBatch k ls => cases h; exact .leaseBatch
  | byIds k ids => cases h; exact .byIds
  | byFilter k f =>
    simp only [step] at h
    split at h <;> cases h
    · exact .preview ‹_›
    · exact .byFilter (Bool.eq_false_iff.2 ‹_›)
  | list route target state order limit before =>
    obtain ⟨q1, hp, hk⟩ := withPrune_some h
    dsimp only at hk
    split at hk <;> cases hk
    · exact .listBad hp
    · exact .list hp
  | listDead route limit before =>
    obtain ⟨q1, hp, hk⟩ := withPrune_some h
    cases hk; exact .listDead hp
  | lookup ids => cases h; exact .lookup
  | stats =>
    obtain ⟨q1, hp, hk⟩ := withPrune_some h
    cases hk; exact .stats hp
  | restart => cases h; exact .restart

theorem step_items {c : Cfg} {now : Int} {q q' : Q} {op : Op} {ch : Choice} {ps : List (String × String)}
    (h : step c now q op ch = some (q', .items ps)) : ∃ a b t l, op = .dequeue a b t l := by
  generalize hr : Resp.items ps = r at h
  cases step_view h with
  | dequeue => exact ⟨_, _, _, _, rfl⟩
  | enqueue _ hk | enqueueBatch _ _ hk =>
    rcases enqueueCore_spec hk with ⟨_, _, rfl⟩ | ⟨rfl, _⟩
    · cases hr
    · split at hr <;> cases hr
  | lease => revert hr; cases (leaseOne _ _ _ _ _).2 <;> intro hr <;> cases hr
  | _ => cases hr

end Hk

#print axioms Hk.trimWS_idem
