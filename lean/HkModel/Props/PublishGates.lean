/-
  Admin publish: nothing follows an error answer, and the store is written only after the last validation (C15
  "all-or-nothing"), read off the two handlers as written.

  `Generated/ApiGates.lean` also holds `handleMessagesPublish` and `handleApplicationEndpointPublish` as the source-order
  sequence of their calls through the receiver, of `Enqueue` / `EnqueueBatch` calls on anything, and of their returns.
-/
import HkModel.Generated.ApiGates

namespace Hk.PublishGates

def eventsOf (fn : String) : List (String × String) :=
  match Gen.apiHandlerEvents.find? (fun (f, g, _) => f == "internal/admin/http.go" && g == fn) with
  | some (_, _, es) => es
  | none => []

/-- after an error answer the next thing that is not itself an error answer (the arms of a `switch` over the store's refusals
    follow each other in the source) is a `return`: no validation and no store call comes after it -/
def errorsReturn : List (String × String) → Bool
  | [] => true
  | e :: rest =>
    (if e == ("call", "writePublishError") then (rest.dropWhile (· == ("call", "writePublishError"))).head? == some ("return", "") else true) &&
      errorsReturn rest

def isStore (e : String × String) : Bool := e == ("call", "Enqueue") || e == ("call", "EnqueueBatch")

def validators : List String :=
  ["mutationAuditPolicyError", "publishRoutePolicyError", "publishMaxBodyBytes", "publishMaxHeaderBytes"]

def lastIdx (a : String × String) (es : List (String × String)) : Option Nat :=
  (es.reverse.idxOf? a).map (fun k => es.length - 1 - k)

/-- the store is written (at least one call site), and every call of a validation helper precedes the first store call -/
def storeAfterValidation (es : List (String × String)) : Bool :=
  match es.findIdx? isStore with
  | none => false
  | some j => validators.all fun v =>
      match lastIdx ("call", v) es with
      | some i => decide (i < j)
      | none => false

theorem publish_errors_return :
    errorsReturn (eventsOf "handleMessagesPublish") = true ∧ errorsReturn (eventsOf "handleApplicationEndpointPublish") = true := by
  decide +kernel

theorem publish_store_after_validation :
    storeAfterValidation (eventsOf "handleMessagesPublish") = true ∧
    storeAfterValidation (eventsOf "handleApplicationEndpointPublish") = true := by decide +kernel

theorem publish_accept_after_store :
    (["handleMessagesPublish", "handleApplicationEndpointPublish"].all fun h =>
      let es := eventsOf h
      es.count ("call", "observePublishAccepted") == 1 &&
      (match lastIdx ("call", "EnqueueBatch") es, es.idxOf? ("call", "observePublishAccepted") with
       | some i, some j => decide (i < j)
       | _, _ => false)) = true := by decide +kernel

example : errorsReturn [("call", "writePublishError"), ("call", "EnqueueBatch")] = false := by decide +kernel
example : storeAfterValidation [("call", "EnqueueBatch"), ("call", "publishRoutePolicyError")] = false := by decide +kernel

end Hk.PublishGates
