/-
  The authorizer is the first thing every API handler consults (C11: "No Pull or Worker operation reads or changes queue state
  unless the request carries a bearer token …; the same holds for every Admin endpoint").

  `Props/C11.lean` proves what the authorizers decide. That the handlers *ask* them before anything else is checked here over
  `Generated/ApiGates.lean`: for the pull HTTP handler, the admin HTTP handler and the four worker gRPC methods (through
  `resolveAndAuthorize`), the source-order sequence of the calls made through the handler's own receiver and of its returns,
  regenerated on every run.
-/
import HkModel.Generated.ApiGates

namespace Hk.ApiGates

def eventsOf (file fn : String) : List (String × String) :=
  match Gen.apiHandlerEvents.find? (fun (f, g, _) => f == file && g == fn) with
  | some (_, _, es) => es
  | none => []

/-- the first call through the receiver is `gate`, it is the only call of it, and the very next event is a `return` (the
    refusal leaves the handler before anything else is consulted) -/
def gatedBy (gate : String) (es : List (String × String)) : Bool :=
  let calls := es.filter (·.1 == "call")
  calls.head? == some ("call", gate) && calls.count ("call", gate) == 1 &&
  (match es.dropWhile (· != ("call", gate)) with
   | _ :: next :: _ => next == ("return", "")
   | _ => false) &&
  decide (calls.length ≥ 2)     -- … and there is something behind the gate

theorem pull_http_asks_the_authorizer_first :
    gatedBy "Authorize" (eventsOf "internal/pullapi/http.go" "ServeHTTP") = true := by decide +kernel

theorem admin_http_asks_the_authorizer_first :
    gatedBy "Authorize" (eventsOf "internal/admin/http.go" "ServeHTTP") = true := by decide +kernel

theorem worker_grpc_asks_the_authorizer_first :
    gatedBy "Authorize" (eventsOf "internal/workerapi/server.go" "resolveAndAuthorize") = true ∧
    (["Dequeue", "Ack", "Nack", "Extend"].all fun m =>
      gatedBy "resolveAndAuthorize" (eventsOf "internal/workerapi/server.go" m)) = true := by decide +kernel

theorem handlers_behind_the_gate :
    ((eventsOf "internal/pullapi/http.go" "ServeHTTP").filter (·.1 == "call")).map (·.2) =
      ["Authorize", "resolveRoute", "handleDequeue", "handleAck", "handleNack", "handleExtend"] ∧
    (((eventsOf "internal/admin/http.go" "ServeHTTP").filter (·.1 == "call")).map (·.2)).head? = some "Authorize" ∧
    (((eventsOf "internal/admin/http.go" "ServeHTTP").filter (·.1 == "call")).map (·.2)).tail.all (· != "Authorize") = true := by
  decide +kernel

example : gatedBy "Authorize" [("call", "handleAck"), ("call", "Authorize"), ("return", "")] = false := by decide +kernel
example : gatedBy "Authorize" [("call", "Authorize"), ("call", "handleAck"), ("return", "")] = false := by decide +kernel

end Hk.ApiGates
