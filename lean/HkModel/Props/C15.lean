import HkModel.Model.Publish
import HkModel.Proofs.Scan
import HkModel.Proofs.Ops
/-!
  C15 — Admin global direct publish (`POST /messages/publish`): property theorems over `Hk.Publish`.

  The two loops of the handler are instances of the schemes of `Proofs/Scan` (`shapeAux_eq`, `pass2_eq`); the handler
  itself is read as a chain of stages (`Stage`, `preflight_stage`; the body of pass 2: `itemPass_cases`). `Stage` takes
  the answers of the scans as parameters, because the endpoint-scoped handler (`Props/C15Scoped`) runs the same chain
  on its own scans once its gates are passed. The end of the handler — answer a rejection or make the one store call —
  is `store`; what it needs to know of the validation before it is `Validated`, and the all-or-nothing theorems are
  proved for any validation that meets it (`store_cases`, `store_all_or_nothing`, `store_ids_nodup`), so that the scoped
  path gets them from the same place.
-/
namespace Hk.Publish
open Hk

theorem trim_idem (s : String) : trim (trim s) = trim s := by
  unfold trim Hk.Egress.trimWS
  rw [String.toList_ofList, Scan.trimList_idem]

theorem utf8_eq_toUTF8 (s : String) : utf8 s = s.toUTF8.data.toList := by
  unfold utf8
  have : s.toUTF8 = s.toList.utf8Encode := by simp
  rw [this, List.utf8Encode]
  simp

/-- `kept` is a sublist of the pruned messages and not all of them: `drop_oldest` evicts -/
theorem step_enqueueBatch {c : Cfg} {now : Int} {q q' : Q} {es : List Env} {ch : Choice} {r : Resp}
    (hne : es ≠ []) (h : step c now q (.enqueueBatch es) ch = some (q', r)) :
    ∃ q1, prune c now q ch.gone = some q1 ∧
      ((q' = q1 ∧ ∃ e, r = .err e) ∨
       (r = .enqueued es.length ∧ ∃ kept, q'.msgs = kept ++ es.map (mkMsg now) ∧ kept.Sublist q1.msgs)) := by
  cases step_view h with
  | enqueueNone => exact absurd rfl hne
  | enqueueBatch _ hp hk =>
    exact ⟨_, hp, (enqueueCore_spec hk).imp id fun ⟨hr, keep, hq', _⟩ => ⟨hr, _, congrArg Q.msgs hq', List.filter_sublist⟩⟩

def tid (it : Item) : String := trim it.id

/-- Go's `seen` set when item `i` is examined -/
def seenBefore (items : List Item) (i : Nat) : List String := (items.take i).map tid

theorem shapeAux_eq (seen : List String) (k : Nat) (items : List Item) :
    shapeAux seen k items = (Scan.firstBad shapeBad tid seen k items).map (·, "invalid_body") := by
  induction items generalizing seen k with
  | nil => rfl
  | cons it rest ih =>
    rw [shapeAux, Scan.firstBad, ih]
    cases shapeBad seen it <;> rfl

theorem shapePass_eq (items : List Item) :
    shapePass items = (Scan.firstBad shapeBad tid [] 0 items).map (·, "invalid_body") :=
  shapeAux_eq [] 0 items

theorem shapeBad_false_iff {seen : List String} {it : Item} : shapeBad seen it = false ↔
    trim it.id ≠ "" ∧
    (trim it.route = "" → trim it.app = "" → trim it.ep ≠ "") ∧
    (trim it.route ≠ "" → startsSlash (trim it.route) = true) ∧
    (trim it.route = "" → trim it.app = "" → trim it.target = "") ∧
    ((trim it.app = "") ↔ (trim it.ep = "")) ∧
    (trim it.app ≠ "" → validLabel (trim it.app) = true) ∧
    (trim it.ep ≠ "" → validLabel (trim it.ep) = true) ∧
    trim it.id ∉ seen := by
  simp [shapeBad, and_assoc, Scan.beq_eq_beq]

/-- **Pass 1 (the parse loop) reports its first offender.** -/
theorem first_offender_shape {items : List Item} {i : Nat} {code : String}
    (h : shapePass items = some (i, code)) :
    code = "invalid_body" ∧
    ∃ hi : i < items.length,
      shapeBad (seenBefore items i) items[i] = true ∧
      ∀ j (hj : j < i), shapeBad (seenBefore items j) (items[j]'(Nat.lt_trans hj hi)) = false := by
  rw [shapePass_eq, Option.map_eq_some_iff] at h
  obtain ⟨_, h, heq⟩ := h
  cases heq
  exact ⟨rfl, Scan.firstBad_some h⟩

theorem shapePass_none {items : List Item} (h : shapePass items = none) :
    ∀ j (hj : j < items.length), shapeBad (seenBefore items j) items[j] = false := by
  rw [shapePass_eq, Option.map_eq_none_iff] at h
  exact Scan.firstBad_none h

theorem shapePass_none_nodup {items : List Item} (h : shapePass items = none) : (items.map tid).Nodup := by
  rw [shapePass_eq, Option.map_eq_none_iff] at h
  refine Scan.nodup_of_firstBad_none (fun seen it hb => ?_) h
  obtain ⟨-, -, -, -, -, -, -, (hid : trim it.id ∉ seen)⟩ := shapeBad_false_iff.1 hb
  exact hid

/-- `firstManagedPublishItemIndex` reports the first item with a managed selector -/
theorem first_offender_managed {items : List Item} {i : Nat} (h : firstManaged items = some i) :
    ∃ hi : i < items.length, isManagedItem items[i] = true ∧
      ∀ j (hj : j < i), isManagedItem (items[j]'(Nat.lt_trans hj hi)) = false := by
  obtain ⟨hi, hp, hprev⟩ := List.findIdx?_eq_some_iff_getElem.1 h
  exact ⟨hi, hp, fun j hj => by simpa using hprev j hj⟩

/-- After pass 1 and the managed-selector check, the four re-checks at the top of the pass-2 loop body cannot
    fire: they are dead code in the handler. -/
theorem pass2_recheck_dead {seen : List String} {it : Item}
    (hs : shapeBad seen it = false) (hm : isManagedItem it = false) :
    trim it.app = "" ∧ trim it.ep = "" ∧ trim it.route ≠ "" ∧ startsSlash (trim it.route) = true := by
  obtain ⟨_, h2, h3, _⟩ := shapeBad_false_iff.1 hs
  unfold isManagedItem at hm
  simp only [Bool.or_eq_false_iff, bne_eq_false_iff_eq] at hm
  obtain ⟨ha, he⟩ := hm
  have hr : trim it.route ≠ "" := fun hr => h2 hr ha he
  exact ⟨ha, he, hr, h3 hr⟩

theorem mem_normTargetsAux : ∀ (l : List String) (seen : List String) (x : String),
    x ∈ normTargetsAux seen l → (∃ raw ∈ l, x = trim raw) ∧ x ≠ ""
  | [], _, _, h => by simp [normTargetsAux] at h
  | raw :: rest, seen, x, h => by
    simp only [normTargetsAux] at h
    have lift : ((∃ r ∈ rest, x = trim r) ∧ x ≠ "") → (∃ r ∈ raw :: rest, x = trim r) ∧ x ≠ "" :=
      fun ⟨⟨r, hr, he⟩, hne⟩ => ⟨⟨r, List.mem_cons_of_mem _ hr, he⟩, hne⟩
    split at h
    · exact lift (mem_normTargetsAux rest _ x h)
    next hne =>
      split at h
      · exact lift (mem_normTargetsAux rest _ x h)
      · rcases List.mem_cons.1 h with rfl | h
        · exact ⟨⟨raw, List.mem_cons_self, rfl⟩, by simpa using hne⟩
        · exact lift (mem_normTargetsAux rest _ x h)

theorem mem_normTargets {ts : List String} {x : String} (h : x ∈ normTargets ts) :
    (∃ raw ∈ ts, x = trim raw) ∧ x ≠ "" ∧ trim x = x := by
  obtain ⟨⟨raw, hr, he⟩, hne⟩ := mem_normTargetsAux ts [] x h
  exact ⟨⟨raw, hr, he⟩, hne, by rw [he, trim_idem]⟩

theorem resolveTarget_mem {target : String} {allowed : List String} {x : String}
    (hall : ∀ c ∈ allowed, trim c = c) (h : resolveTarget target allowed = some x) :
    x ∈ allowed ∧ (trim target ≠ "" → x = trim target) ∧ (trim target = "" → allowed = [x]) := by
  simp only [resolveTarget, Scan.ite_eq_iff, reduceCtorEq, and_false, false_or, beq_iff_eq] at h
  rcases h.2 with ⟨ht, h⟩ | ⟨ht, ⟨hany, h⟩ | h⟩
  · split at h
    · cases h; exact ⟨List.mem_singleton.2 rfl, fun hne => absurd ht hne, fun _ => rfl⟩
    · cases h
  · obtain ⟨c, hc, heq⟩ := List.any_eq_true.1 hany
    obtain rfl := Option.some.inj h
    have : trim target = c := by rw [← hall c hc]; simpa using heq
    exact ⟨this ▸ hc, fun _ => rfl, fun he => absurd he ht⟩
  · cases h

theorem policyError_none {ctx : Ctx} {r : RouteInfo} {ts : List String} (h : policyError ctx r ts = none) :
    r.publishEnabled = true ∧ r.directEnabled = true ∧
    (routeMode r ts = "pull" → ctx.allowPull = true) ∧ (routeMode r ts = "deliver" → ctx.allowDeliver = true) := by
  simpa [policyError, Scan.ite_eq_iff] using h

theorem policyError_some {ctx : Ctx} {r : RouteInfo} {ts : List String} {code : String}
    (h : policyError ctx r ts = some code) :
    code = "route_publish_disabled" ∨ code = "pull_route_publish_disabled" ∨
      code = "deliver_route_publish_disabled" := by
  simp [policyError, Scan.ite_eq_iff] at h
  grind

theorem envelopeFromItem_ok {it : Item} {route target : String} {mb mh : Nat} {e : Hk.Env}
    (h : envelopeFromItem it route target mb mh = .ok e) :
    it.recvOK = true ∧ it.nextOK = true ∧ validHeaders it.headers = true ∧ headerBytes it.headers ≤ mh ∧
    ∃ bytes, payloadOf it = some bytes ∧ bytes.length ≤ mb ∧
      e = { id := trim it.id, route := route, target := target, recv := it.recv, next := it.next, attempt := 0,
            payload := hexOf bytes, headers := "", trace := "" } := by
  unfold envelopeFromItem at h
  cases hp : payloadOf it with
  | none => simp [hp, Scan.ite_eq_iff] at h
  | some bytes =>
    simp [hp, Scan.ite_eq_iff] at h
    obtain ⟨h1, h2, h3, h4, h5, rfl⟩ := h
    exact ⟨h1, h2, h4, h5, bytes, rfl, h3, rfl⟩

theorem envelopeFromItem_error {it : Item} {route target : String} {mb mh st : Nat} {code : String}
    (h : envelopeFromItem it route target mb mh = .error (st, code)) :
    (st = 400 ∧ (code = "invalid_received_at" ∨ code = "invalid_next_run_at" ∨ code = "invalid_payload_b64" ∨
        code = "invalid_header")) ∨
    (st = 413 ∧ (code = "payload_too_large" ∨ code = "headers_too_large")) := by
  unfold envelopeFromItem at h
  cases hp : payloadOf it <;> simp [hp, Scan.ite_eq_iff] at h <;> grind

/-- The answers of `itemPass` by status. `refused` takes every 400 of the body itself: the four re-checks at its top
    (dead, `pass2_recheck_dead`) along with those about the route, a managed route and the target. The 400s and the
    413s of `envelopeFromItem` come under `prepared`. -/
theorem itemPass_cases {P : Except (Nat × String) Hk.Env → Prop} (ctx : Ctx) (it : Item)
    (refused : ∀ code, P (.error (400, code))) (forbidden : ∀ code, P (.error (403, code)))
    (prepared : ∀ r target, lookupRoute ctx (trim it.route) = some r → r.managed = false →
      policyError ctx r (normTargets r.targets) = none →
      resolveTarget it.target (normTargets r.targets) = some target →
      P (envelopeFromItem it (trim it.route) target r.maxBody r.maxHeaders)) :
    P (itemPass ctx it) := by
  unfold itemPass
  -- the four re-checks of pass 1, then the route
  iterate 4 refine Scan.gate (refused _) fun _ => ?_
  split
  · exact refused _
  next r hr =>
  refine Scan.gate (refused _) fun hman => ?_
  refine Scan.gate (refused _) fun _ => ?_
  split
  · exact forbidden _
  next hpol =>
  split
  · exact refused _
  next target htarget =>
  exact Scan.gate (refused _) fun _ => prepared r target hr (by simpa using hman) hpol htarget

theorem itemPass_error_status {ctx : Ctx} {it : Item} {st : Nat} {code : String}
    (h : itemPass ctx it = .error (st, code)) : st = 400 ∨ st = 403 ∨ st = 413 := by
  -- the motive is written out: with `_` for its conclusion the unifier unfolds `itemPass`, which is slow
  refine itemPass_cases (P := fun res => res = .error (st, code) → st = 400 ∨ st = 403 ∨ st = 413) ctx it ?_ ?_ ?_ h
  · rintro _ ⟨⟩; exact .inl rfl
  · rintro _ ⟨⟩; exact .inr (.inl rfl)
  · exact fun _ _ _ _ _ _ h => (envelopeFromItem_error h).imp And.left fun h => .inr h.1

/-- What pass 2 establishes for an item and the envelope prepared from it. -/
structure Published (ctx : Ctx) (it : Item) (e : Hk.Env) (r : RouteInfo) : Prop where
  lookup : lookupRoute ctx (trim it.route) = some r
  routeMem : r ∈ ctx.routes
  path : r.path = trim it.route
  id : e.id = trim it.id
  route : e.route = trim it.route
  recv : e.recv = it.recv
  next : e.next = it.next
  attempt : e.attempt = 0
  target : e.target ∈ normTargets r.targets
  targetAsked : trim it.target ≠ "" → e.target = trim it.target
  targetOnly : trim it.target = "" → normTargets r.targets = [e.target]
  payload : ∃ bytes, payloadOf it = some bytes ∧ bytes.length ≤ r.maxBody ∧ e.payload = hexOf bytes
  headersValid : validHeaders it.headers = true
  headersFit : headerBytes it.headers ≤ r.maxHeaders
  recvOK : it.recvOK = true
  nextOK : it.nextOK = true
  publishEnabled : r.publishEnabled = true
  directEnabled : r.directEnabled = true
  notManaged : r.managed = false
  pullAllowed : routeMode r (normTargets r.targets) = "pull" → ctx.allowPull = true
  deliverAllowed : routeMode r (normTargets r.targets) = "deliver" → ctx.allowDeliver = true

theorem itemPass_ok {ctx : Ctx} {it : Item} {e : Hk.Env} (h : itemPass ctx it = .ok e) :
    ∃ r, Published ctx it e r := by
  refine itemPass_cases (P := fun res => res = .ok e → ∃ r, Published ctx it e r) ctx it (fun _ h => nomatch h)
    (fun _ h => nomatch h) ?_ h
  intro r target hr hman hpol hres h
  obtain ⟨hp1, hp2, hp3, hp4⟩ := policyError_none hpol
  obtain ⟨hmem, hasked, honly⟩ := resolveTarget_mem (fun c hc => (mem_normTargets hc).2.2) hres
  obtain ⟨e1, e2, e3, e4, bytes, hb, hlen, rfl⟩ := envelopeFromItem_ok h
  exact ⟨r, {
    lookup := hr, routeMem := List.mem_of_find?_eq_some hr, path := by simpa using List.find?_some hr,
    id := rfl, route := rfl, recv := rfl, next := rfl, attempt := rfl,
    target := hmem, targetAsked := hasked, targetOnly := honly,
    payload := ⟨bytes, hb, hlen, rfl⟩, headersValid := e3, headersFit := e4, recvOK := e1, nextOK := e2,
    publishEnabled := hp1, directEnabled := hp2, notManaged := hman, pullAllowed := hp3, deliverAllowed := hp4 }⟩

theorem pass2_eq (ctx : Ctx) (k : Nat) (items : List Item) :
    pass2 ctx k items = Scan.mapFirstErr (itemPass ctx) k items := by
  induction items generalizing k with
  | nil => rfl
  | cons it rest ih =>
    unfold pass2 Scan.mapFirstErr
    rw [ih]
    cases itemPass ctx it with
    | error e => rfl
    | ok e => cases Scan.mapFirstErr (itemPass ctx) (k + 1) rest <;> rfl

theorem pass2_ok_ids {ctx : Ctx} {items : List Item} {k : Nat} {envs : List Hk.Env}
    (h : pass2 ctx k items = .ok envs) : envs.map (·.id) = items.map tid := by
  rw [pass2_eq] at h
  exact Scan.map_eq_of_mapFirstErr_ok (fun _ _ he => (itemPass_ok he).elim fun _ p => p.id) h

/-- **Pass 2 reports its first offender.** -/
theorem first_offender_item {ctx : Ctx} {items : List Item} {i st : Nat} {code : String}
    (h : pass2 ctx 0 items = .error (i, st, code)) :
    ∃ hi : i < items.length,
      itemPass ctx items[i] = .error (st, code) ∧
      ∀ j (hj : j < i), ∃ e, itemPass ctx (items[j]'(Nat.lt_trans hj hi)) = .ok e := by
  rw [pass2_eq] at h
  exact Scan.mapFirstErr_error h

/-- **Pass 3 reports the smallest index whose id is already stored.** -/
theorem first_offender_existing {existing ids : List String} {i : Nat}
    (h : firstExisting existing ids = some i) :
    ∃ hi : i < ids.length, ids[i] ∈ existing ∧ ∀ j (hj : j < i), ids[j]'(Nat.lt_trans hj hi) ∉ existing := by
  obtain ⟨hi, hp, hprev⟩ := List.findIdx?_eq_some_iff_getElem.1 h
  exact ⟨hi, by simpa using hp, fun j hj => by simpa using hprev j hj⟩

/-- Over `l.map f`: the callers have the ids as `items.map fun it => trim it.id` and want the items, not the ids. -/
theorem firstExisting_none {α : Type} {existing : List String} {f : α → String} {l : List α}
    (h : firstExisting existing (l.map f) = none) : ∀ a ∈ l, f a ∉ existing := by
  intro a ha
  have := List.findIdx?_eq_none_iff.1 h (f a) (List.mem_map_of_mem ha)
  simpa using this

theorem sizeBad_iff {items : List Item} :
    (items.isEmpty || decide (items.length > maxItems)) = true ↔ items = [] ∨ items.length > 1000 := by
  simp [maxItems]

theorem sizeOK_iff {items : List Item} :
    ¬(items.isEmpty || decide (items.length > maxItems)) = true ↔ items ≠ [] ∧ items.length ≤ 1000 := by
  simp [maxItems]

/-- Both publish handlers end alike: the 1..1000 rule, the parse loop, the managed-selector check (global path only), the
    per-item loop, the stored-id lookup. One constructor per stage of that chain that can answer, with what is known when
    it does: the stages before it were silent. `preflight` is exactly this chain on its own scans
    (`preflight_stage_iff`); `scopedPreflight` runs it behind its gates (`Props/C15Scoped: ScopedStage.behind`). -/
inductive Stage (items : List Item) (shape : Option (Nat × String)) (managed : Option Nat)
    (perItem : Except (Nat × Nat × String) (List Env)) (existing : List String) : Outcome → Prop
  | size : items = [] ∨ items.length > 1000 → Stage items shape managed perItem existing (.reject 400 "invalid_body" none)
  | shape {i code} : items ≠ [] → items.length ≤ 1000 → shape = some (i, code) →
      Stage items shape managed perItem existing (.reject 400 code (some i))
  | managed {i} : items ≠ [] → items.length ≤ 1000 → shape = none → managed = some i →
      Stage items shape managed perItem existing (.reject 400 "scoped_publish_required" (some i))
  | perItem {i st code} : items ≠ [] → items.length ≤ 1000 → shape = none → managed = none →
      perItem = .error (i, st, code) → Stage items shape managed perItem existing (.reject st code (some i))
  | stored {i envs} : items ≠ [] → items.length ≤ 1000 → shape = none → managed = none → perItem = .ok envs →
      firstExisting existing (envs.map (·.id)) = some i →
      Stage items shape managed perItem existing (.reject 409 "duplicate_id" (some i))
  | accept {envs} : items ≠ [] → items.length ≤ 1000 → shape = none → managed = none → perItem = .ok envs →
      firstExisting existing (envs.map (·.id)) = none → Stage items shape managed perItem existing (.accept envs)

theorem preflight_stage {ctx : Ctx} {existing : List String} {items : List Item} {o : Outcome}
    (h : preflight ctx existing items = o) :
    Stage items (shapePass items) (firstManaged items) (pass2 ctx 0 items) existing o := by
  subst h
  unfold preflight
  split
  next hsz => exact .size (sizeBad_iff.1 hsz)
  next hsz =>
  obtain ⟨hne, hsz⟩ := sizeOK_iff.1 hsz
  split
  next hs => exact .shape hne hsz hs
  next hs =>
  split
  next hm => exact .managed hne hsz hs hm
  next hm =>
  split
  next hp => exact .perItem hne hsz hs hm hp
  next hp =>
  split
  next hex => exact .stored hne hsz hs hm hp hex
  next hex => exact .accept hne hsz hs hm hp hex

theorem preflight_stage_iff {ctx : Ctx} {existing : List String} {items : List Item} {o : Outcome} :
    preflight ctx existing items = o ↔
      Stage items (shapePass items) (firstManaged items) (pass2 ctx 0 items) existing o := by
  refine ⟨preflight_stage, fun h => ?_⟩
  cases h with
  | size hsz => exact if_pos (sizeBad_iff.2 hsz)
  | shape hne hsz hs => simp only [preflight, if_neg (sizeOK_iff.2 ⟨hne, hsz⟩), hs]
  | managed hne hsz hs hm => simp only [preflight, if_neg (sizeOK_iff.2 ⟨hne, hsz⟩), hs, hm]
  | perItem hne hsz hs hm hp => simp only [preflight, if_neg (sizeOK_iff.2 ⟨hne, hsz⟩), hs, hm, hp]
  | stored hne hsz hs hm hp hex => simp only [preflight, if_neg (sizeOK_iff.2 ⟨hne, hsz⟩), hs, hm, hp, hex]
  | accept hne hsz hs hm hp hex => simp only [preflight, if_neg (sizeOK_iff.2 ⟨hne, hsz⟩), hs, hm, hp, hex]

/-- Every rejection is the answer of exactly one stage; the stages run in this order and a later stage only
    runs when all earlier ones were silent. -/
theorem preflight_reject_cases {ctx : Ctx} {existing : List String} {items : List Item} {st : Nat}
    {code : String} {idx : Option Nat} (h : preflight ctx existing items = .reject st code idx) :
    (idx = none ∧ st = 400 ∧ code = "invalid_body" ∧ (items = [] ∨ items.length > 1000)) ∨
    (∃ i, idx = some i ∧ st = 400 ∧ shapePass items = some (i, code)) ∨
    (∃ i, idx = some i ∧ st = 400 ∧ code = "scoped_publish_required" ∧ shapePass items = none ∧
      firstManaged items = some i) ∨
    (∃ i, idx = some i ∧ shapePass items = none ∧ firstManaged items = none ∧
      pass2 ctx 0 items = .error (i, st, code)) ∨
    (∃ i envs, idx = some i ∧ st = 409 ∧ code = "duplicate_id" ∧ shapePass items = none ∧
      firstManaged items = none ∧ pass2 ctx 0 items = .ok envs ∧
      firstExisting existing (envs.map (·.id)) = some i) := by
  cases preflight_stage h with
  | size hsz => exact .inl ⟨rfl, rfl, rfl, hsz⟩
  | shape _ _ hs => exact .inr (.inl ⟨_, rfl, rfl, hs⟩)
  | managed _ _ hs hm => exact .inr (.inr (.inl ⟨_, rfl, rfl, rfl, hs, hm⟩))
  | perItem _ _ hs hm hp => exact .inr (.inr (.inr (.inl ⟨_, rfl, hs, hm, hp⟩)))
  | stored _ _ hs hm hp hex => exact .inr (.inr (.inr (.inr ⟨_, _, rfl, rfl, rfl, hs, hm, hp, hex⟩)))

/-- the converse of `preflight_reject_cases` for pass 2 -/
theorem preflight_of_pass2_error {ctx : Ctx} {existing : List String} {items : List Item} {i st : Nat}
    {code : String} (hne : items ≠ []) (hsz : items.length ≤ 1000) (hs : shapePass items = none)
    (hm : firstManaged items = none) (hp : pass2 ctx 0 items = .error (i, st, code)) :
    preflight ctx existing items = .reject st code (some i) :=
  preflight_stage_iff.2 (.perItem hne hsz hs hm hp)

theorem preflight_reject_status {ctx : Ctx} {existing : List String} {items : List Item} {st : Nat}
    {code : String} {idx : Option Nat} (h : preflight ctx existing items = .reject st code idx) :
    st = 400 ∨ st = 403 ∨ st = 413 ∨ st = 409 := by
  cases preflight_stage h with
  | perItem _ _ _ _ hp =>
    obtain ⟨_, herr, _⟩ := first_offender_item hp
    have := itemPass_error_status herr
    omega
  | _ => decide

/-- **An accepted request is valid in every item.** -/
theorem accept_implies_all_valid {ctx : Ctx} {existing : List String} {items : List Item}
    {envs : List Hk.Env} (h : preflight ctx existing items = .accept envs) :
    items ≠ [] ∧ items.length ≤ 1000 ∧
    envs.length = items.length ∧
    (∀ i (h1 : i < items.length) (h2 : i < envs.length), itemPass ctx items[i] = .ok envs[i]) ∧
    shapePass items = none ∧
    firstManaged items = none ∧
    envs.map (·.id) = items.map (fun it => trim it.id) ∧
    (∀ it ∈ items, trim it.id ∉ existing) ∧
    (items.map (fun it => trim it.id)).Nodup := by
  cases preflight_stage h with
  | accept hne hsz hs hm hp hex =>
    obtain ⟨hl, hall⟩ := Scan.mapFirstErr_ok (pass2_eq .. ▸ hp)
    have hids := pass2_ok_ids hp
    exact ⟨hne, hsz, hl, hall, hs, hm, hids, firstExisting_none (hids ▸ hex), shapePass_none_nodup hs⟩

/-- The stored ids enter the validation only in its last stage. -/
theorem preflight_of_accept {ctx : Ctx} {existing : List String} {items : List Item} {envs : List Hk.Env}
    (h : preflight ctx existing items = .accept envs) (existing' : List String) :
    preflight ctx existing' items = match firstExisting existing' (envs.map (·.id)) with
      | some i => .reject 409 "duplicate_id" (some i)
      | none => .accept envs := by
  cases preflight_stage h with
  | accept hne hsz hs hm hp =>
    split
    next hex => exact preflight_stage_iff.2 (.stored hne hsz hs hm hp hex)
    next hex => exact preflight_stage_iff.2 (.accept hne hsz hs hm hp hex)

/-- **Shape of everything that reaches the store.** -/
theorem published_shape {ctx : Ctx} {existing : List String} {items : List Item} {envs : List Hk.Env}
    (h : preflight ctx existing items = .accept envs) :
    ∀ i (h1 : i < items.length) (h2 : i < envs.length), ∃ r, Published ctx items[i] envs[i] r := by
  obtain ⟨_, _, _, hall, _⟩ := accept_implies_all_valid h
  exact fun i h1 h2 => itemPass_ok (hall i h1 h2)

/-- `published_shape` as a flat conjunction: the fields of `Published` about the route, the target, the payload and
    the headers. -/
theorem published_shape' {ctx : Ctx} {existing : List String} {items : List Item} {envs : List Hk.Env}
    (h : preflight ctx existing items = .accept envs) (i : Nat) (h1 : i < items.length) (h2 : i < envs.length) :
    ∃ r ∈ ctx.routes, r.path = trim items[i].route ∧
      envs[i].target ∈ normTargets r.targets ∧
      (∃ bytes, payloadOf items[i] = some bytes ∧ bytes.length ≤ r.maxBody ∧ envs[i].payload = hexOf bytes) ∧
      validHeaders items[i].headers = true ∧ headerBytes items[i].headers ≤ r.maxHeaders ∧
      r.publishEnabled = true ∧ r.directEnabled = true ∧ r.managed = false := by
  obtain ⟨r, p⟩ := published_shape h i h1 h2
  exact ⟨r, p.routeMem, p.path, p.target, p.payload, p.headersValid, p.headersFit, p.publishEnabled,
    p.directEnabled, p.notManaged⟩

theorem respOfStore_err_status (e : Err) :
    (respOfStore (.err e)).status ≠ 200 ∧ (respOfStore (.err e)).published = 0 := by
  cases e <;> simp [respOfStore]

/-- The end of the handler: a rejection is answered without touching the queue, accepted envelopes go to one
    `EnqueueBatch`. `publish` and `scopedPublish` are this after their own validation. -/
def store (c : Cfg) (now : Int) (q : Q) (ch : Choice) : Outcome → Option (Q × PubResp)
  | .reject st code idx => some (q, ⟨st, code, idx, 0⟩)
  | .accept envs =>
    match step c now q (.enqueueBatch envs) ch with
    | none => none
    | some (q', r) => some (q', respOfStore r)

theorem publish_eq_store {c : Cfg} {now : Int} {q : Q} {ctx : Ctx} {items : List Item} {ch : Choice} :
    publish c now q ctx items ch = store c now q ch (preflight ctx (q.msgs.map (·.id)) items) := rfl

/-- `publish_eq_store` on the empty queue with `[]` for its ids, the form in which `Demo.batch3_accept` rewrites. -/
theorem publish_empty {c : Cfg} {now : Int} {ctx : Ctx} {items : List Item} {ch : Choice} :
    publish c now {} ctx items ch = store c now {} ch (preflight ctx [] items) := rfl

/-- What `store` relies on from the validation before it, `existing` being the ids in the queue. -/
def Validated (existing : List String) (items : List Item) : Outcome → Prop
  | .reject st _ _ => st ≠ 200
  | .accept envs => items ≠ [] ∧ envs.map (·.id) = items.map (fun it => trim it.id) ∧
      (∀ it ∈ items, trim it.id ∉ existing) ∧ (items.map (fun it => trim it.id)).Nodup

theorem Validated.new_ids {existing : List String} {items : List Item} {envs : List Env}
    (v : Validated existing items (.accept envs)) :
    (envs.map (·.id)).Nodup ∧ ∀ x ∈ envs.map (·.id), x ∉ existing := by
  obtain ⟨_, hids, hex, hnd⟩ := v
  rw [hids]
  exact ⟨hnd, fun x hx => (List.mem_map.1 hx).elim fun it h => h.2 ▸ hex it h.1⟩

theorem preflight_validated (ctx : Ctx) (existing : List String) (items : List Item) :
    Validated existing items (preflight ctx existing items) := by
  cases h : preflight ctx existing items with
  | reject st code idx =>
    have := preflight_reject_status h
    show st ≠ 200
    omega
  | accept envs =>
    obtain ⟨hne, _, _, _, _, _, hids, hex, hnd⟩ := accept_implies_all_valid h
    exact ⟨hne, hids, hex, hnd⟩

section store
variable {c : Cfg} {now : Int} {q q' : Q} {items : List Item} {ch : Choice} {resp : PubResp} {o : Outcome}

theorem store_cases (v : Validated (q.msgs.map (·.id)) items o) (h : store c now q ch o = some (q', resp)) :
    (∃ st code idx, o = .reject st code idx ∧ q' = q ∧ resp = ⟨st, code, idx, 0⟩ ∧ st ≠ 200) ∨
    (∃ envs q1, o = .accept envs ∧ prune c now q ch.gone = some q1 ∧
        ((∃ e, q' = q1 ∧ resp = respOfStore (.err e)) ∨
         (resp = ⟨200, "", none, items.length⟩ ∧
          ∃ kept, q'.msgs = kept ++ envs.map (mkMsg now) ∧ kept.Sublist q1.msgs))) := by
  cases o with
  | reject st code idx =>
    simp only [store, Option.some.injEq, Prod.mk.injEq] at h
    exact .inl ⟨st, code, idx, rfl, h.1.symm, h.2.symm, v⟩
  | accept envs =>
    obtain ⟨hne, hids, _⟩ := v
    have hlen : envs.length = items.length := by simpa using congrArg List.length hids
    have hen : envs ≠ [] := fun he => hne (List.length_eq_zero_iff.1 (hlen ▸ he ▸ rfl))
    simp only [store] at h
    split at h
    · cases h
    next q2 r hstep =>
      cases h
      obtain ⟨q1, hq1, ⟨rfl, e, rfl⟩ | ⟨rfl, kept, hk, hsub⟩⟩ := step_enqueueBatch hen hstep
      · exact .inr ⟨envs, _, rfl, hq1, .inl ⟨e, rfl, rfl⟩⟩
      · exact .inr ⟨envs, q1, rfl, hq1, .inr ⟨by rw [respOfStore, hlen], kept, hk, hsub⟩⟩

theorem map_id_mkMsg (now : Int) (envs : List Env) : (envs.map (mkMsg now)).map (·.id) = envs.map (·.id) := by
  simp [mkMsg]

theorem store_all_or_nothing (v : Validated (q.msgs.map (·.id)) items o)
    (h : store c now q ch o = some (q', resp)) :
    (resp.status = 200 →
      resp.published = items.length ∧ ∀ it ∈ items, trim it.id ∈ q'.msgs.map (·.id)) ∧
    (resp.status ≠ 200 →
      resp.published = 0 ∧ (q' = q ∨ prune c now q ch.gone = some q') ∧ q'.msgs.Sublist q.msgs) := by
  rcases store_cases v h with ⟨st, code, idx, _, rfl, rfl, hst⟩ |
      ⟨envs, q1, rfl, hq1, ⟨e, rfl, rfl⟩ | ⟨rfl, kept, hk, _⟩⟩
  · exact ⟨fun h => absurd h hst, fun _ => ⟨rfl, .inl rfl, List.Sublist.refl _⟩⟩
  · have := respOfStore_err_status e
    exact ⟨fun h => absurd h this.1, fun _ => ⟨this.2, .inr hq1, (prune_sublist hq1).1⟩⟩
  · refine ⟨fun _ => ⟨rfl, fun it hit => ?_⟩, fun h => absurd rfl h⟩
    rw [hk, List.map_append, List.mem_append, map_id_mkMsg, v.2.1]
    exact .inr (List.mem_map.2 ⟨it, hit, rfl⟩)

theorem store_ids_nodup (v : Validated (q.msgs.map (·.id)) items o) (h : store c now q ch o = some (q', resp))
    (hq : (q.msgs.map (·.id)).Nodup) : (q'.msgs.map (·.id)).Nodup := by
  rcases store_cases v h with ⟨st, code, idx, _, rfl, _⟩ |
      ⟨envs, q1, rfl, hq1, ⟨e, rfl, _⟩ | ⟨_, kept, hk, hsub⟩⟩
  · exact hq
  · exact (((prune_sublist hq1).1).map _).nodup hq
  · obtain ⟨hnd, hfresh⟩ := v.new_ids
    have hkq : (kept.map (·.id)).Sublist (q.msgs.map (·.id)) := (hsub.trans (prune_sublist hq1).1).map _
    rw [hk, List.map_append, map_id_mkMsg, List.nodup_append]
    exact ⟨hkq.nodup hq, hnd, fun a ha b hb hab => hfresh b hb (hab ▸ hkq.subset ha)⟩

end store

/-- **All or nothing, precisely.** A preflight rejection leaves the queue untouched, a store refusal exactly the state
    after the piggy-backed retention prune; a success stores ALL envelopes, in request order, behind what the prune
    and `drop_oldest` left. -/
theorem publish_cases {c : Cfg} {now : Int} {q q' : Q} {ctx : Ctx} {items : List Item} {ch : Choice}
    {resp : PubResp} (h : publish c now q ctx items ch = some (q', resp)) :
    (∃ st code idx, preflight ctx (q.msgs.map (·.id)) items = .reject st code idx ∧ q' = q ∧
        resp = ⟨st, code, idx, 0⟩ ∧ st ≠ 200) ∨
    (∃ envs q1, preflight ctx (q.msgs.map (·.id)) items = .accept envs ∧
        prune c now q ch.gone = some q1 ∧
        ((∃ e, q' = q1 ∧ resp = respOfStore (.err e)) ∨
         (resp = ⟨200, "", none, items.length⟩ ∧
          ∃ kept, q'.msgs = kept ++ envs.map (mkMsg now) ∧ kept.Sublist q1.msgs))) :=
  store_cases (preflight_validated ..) (publish_eq_store ▸ h)

/-- **All or nothing.** Status 200 ⇒ every item was published (`published = items.length`, every trimmed id
    is in the queue). Any other status ⇒ nothing was published: no message was added (the state is the old one,
    or the old one after the retention prune that every store call piggy-backs — a sublist of the old state). -/
theorem publish_all_or_nothing {c : Cfg} {now : Int} {q q' : Q} {ctx : Ctx} {items : List Item} {ch : Choice}
    {resp : PubResp} (h : publish c now q ctx items ch = some (q', resp)) :
    (resp.status = 200 →
      resp.published = items.length ∧ ∀ it ∈ items, trim it.id ∈ q'.msgs.map (·.id)) ∧
    (resp.status ≠ 200 →
      resp.published = 0 ∧ (q' = q ∨ prune c now q ch.gone = some q') ∧ q'.msgs.Sublist q.msgs) :=
  store_all_or_nothing (preflight_validated ..) (publish_eq_store ▸ h)

theorem publish_ok_new_ids {ctx : Ctx} {existing : List String} {items : List Item} {envs : List Hk.Env}
    (h : preflight ctx existing items = .accept envs) :
    (envs.map (·.id)).Nodup ∧ ∀ x ∈ envs.map (·.id), x ∉ existing :=
  (h ▸ preflight_validated ctx existing items : Validated existing items (.accept envs)).new_ids

/-- `publish` keeps the `nodup` clause of the queue invariant `Hk.Inv`. -/
theorem publish_ids_nodup {c : Cfg} {now : Int} {q q' : Q} {ctx : Ctx} {items : List Item} {ch : Choice}
    {resp : PubResp} (h : publish c now q ctx items ch = some (q', resp))
    (hq : (q.msgs.map (·.id)).Nodup) : (q'.msgs.map (·.id)).Nodup :=
  store_ids_nodup (preflight_validated ..) (publish_eq_store ▸ h) hq

/-- so that examples about `itemPass` are decidable propositions -/
def errOf {ε α : Type} : Except ε α → Option ε
  | .error e => some e
  | .ok _ => none

namespace Demo

def pullRoute : RouteInfo :=
  { path := "/hooks", targets := ["pull"], publishEnabled := true, directEnabled := true, managed := false,
    mode := "pull", maxBody := 16, maxHeaders := 64 }
def deliverRoute : RouteInfo :=
  { path := "/out", targets := ["https://a.example/x", " https://b.example/y ", "https://a.example/x"],
    publishEnabled := true, directEnabled := true, managed := false, mode := "deliver",
    maxBody := 16, maxHeaders := 64 }
def managedRoute : RouteInfo :=
  { path := "/managed", targets := ["pull"], publishEnabled := true, directEnabled := true, managed := true,
    mode := "pull", maxBody := 16, maxHeaders := 64 }
def ctx : Ctx := { routes := [pullRoute, deliverRoute, managedRoute], allowPull := true, allowDeliver := true }

def item (id route target b64 : String) (h : List (String × String) := []) : Item :=
  { id := id, route := route, target := target, app := "", ep := "", payloadB64 := b64, headers := h,
    recvOK := true, nextOK := true, recv := 0, next := 0 }

/-- a 3-item batch (sole pull target defaulted, explicit deliver targets, binary payload, a header) -/
def batch3 : List Item :=
  [item " a " "/hooks" "" "aGk=" [("X-A", "1")],
   item "b" "/out" "https://b.example/y" "",
   item "c" " /out" " https://a.example/x" "AAEC/w=="]

end Demo

open Demo in
/-- `batch3` against an empty queue; the validation is evaluated here, once for the three examples below -/
theorem Demo.batch3_accept : preflight ctx [] batch3 = .accept
    [{ id := "a", route := "/hooks", target := "pull", payload := "6869" },
     { id := "b", route := "/out", target := "https://b.example/y", payload := "" },
     { id := "c", route := "/out", target := "https://a.example/x", payload := "000102ff" }] := by decide +kernel

open Demo in
example : preflight ctx ["z"] batch3 = .accept
    [{ id := "a", route := "/hooks", target := "pull", payload := "6869" },
     { id := "b", route := "/out", target := "https://b.example/y", payload := "" },
     { id := "c", route := "/out", target := "https://a.example/x", payload := "000102ff" }] :=
  (preflight_of_accept batch3_accept ["z"]).trans (by decide +kernel)

open Demo in
example : (publish {} 7 {} ctx batch3 {}).map (fun p => (p.1.msgs.map (·.id), p.2)) =
    some (["a", "b", "c"], ⟨200, "", none, 3⟩) := by
  rw [publish_empty, batch3_accept]
  decide +kernel

open Demo in
example : (publish { maxDepth := 2 } 7 {} ctx batch3 {}).map (fun p => (p.1.msgs.map (·.id), p.2)) =
    some ([], ⟨503, "queue_full", none, 0⟩) := by
  rw [publish_empty, batch3_accept]
  decide +kernel

open Demo in
/-- **The reported index is not always the least invalid index.** Item 0 has an unresolvable target (a pass-2
    error), item 1 an empty id (a pass-1 error): pass 1 runs over the whole batch before pass 2 starts, so the
    answer names item 1. -/
theorem pinned_first_offender_not_least :
    errOf (itemPass ctx (item "a" "/out" "" "")) = some (400, "target_unresolvable") ∧
    preflight ctx [] [item "a" "/out" "" "", item " " "/hooks" "" ""] = .reject 400 "invalid_body" (some 1) := by
  decide +kernel

open Demo in
example : preflight ctx [] [item "a" "/out" "" ""] = .reject 400 "target_unresolvable" (some 0) := by decide +kernel
open Demo in
example : preflight ctx [] [item "a" "/managed" "" ""] = .reject 400 "managed_selector_required" (some 0) := by
  decide +kernel
open Demo in
example : preflight ctx [] [item "a" "/nope" "" ""] = .reject 400 "route_not_found" (some 0) := by decide +kernel
open Demo in
example : preflight ctx [] [item "a" "/hooks" "" "", item "a " "/hooks" "" ""] =
    .reject 400 "invalid_body" (some 1) := by decide +kernel
open Demo in
example : preflight ctx ["b"] [item "a" "/hooks" "" "", item "b" "/hooks" "" ""] =
    .reject 409 "duplicate_id" (some 1) := by decide +kernel
open Demo in
example : preflight ctx [] [item "a" "/hooks" "" "AAAAAAAAAAAAAAAAAAAAAAAA"] =
    .reject 413 "payload_too_large" (some 0) := by decide +kernel
open Demo in
example : preflight ctx [] [item "a" "/hooks" "" " aGk="] = .reject 400 "invalid_payload_b64" (some 0) := by
  decide +kernel
open Demo in
example : preflight ctx [] [item "a" "/hooks" "" "" [("X A", "1")]] = .reject 400 "invalid_header" (some 0) := by
  decide +kernel
open Demo in
example : preflight { ctx with allowPull := false } [] [item "a" "/hooks" "" ""] =
    .reject 403 "pull_route_publish_disabled" (some 0) := by decide +kernel
open Demo in
example : preflight ctx [] [{ item "a" "" "" "" with app := "app", ep := "ep" }] =
    .reject 400 "scoped_publish_required" (some 0) := by decide +kernel
example : preflight Demo.ctx [] [] = .reject 400 "invalid_body" none := by decide +kernel

theorem auditError_eq_none_iff (c : AuditCfg) (isScoped : Bool) (a : Audit) : auditError c isScoped a = none ↔
    trim a.reason ≠ "" ∧
    (((trim a.reason).utf8ByteSize ≤ 512 ∧ (trim a.actor).utf8ByteSize ≤ 256) ∧
      (trim a.requestId).utf8ByteSize ≤ 256) ∧
    (c.requireActor = true → trim a.actor ≠ "") ∧ (c.requireRequestId = true → trim a.requestId ≠ "") ∧
    (isScoped = true → actorPolicyEnabled c = true → trim a.actor ≠ "" ∧ actorAllowed c (trim a.actor) = true) := by
  simp [auditError, Scan.ite_eq_iff]

theorem audit_ok_spec (c : AuditCfg) (isScoped : Bool) (a : Audit) (h : auditError c isScoped a = none) :
    trim a.reason ≠ "" ∧ (c.requireActor = true → trim a.actor ≠ "") ∧ (c.requireRequestId = true → trim a.requestId ≠ "") ∧
    (isScoped = true → actorPolicyEnabled c = true → trim a.actor ≠ "" ∧ actorAllowed c (trim a.actor) = true) :=
  have h := (auditError_eq_none_iff c isScoped a).1 h
  ⟨h.1, h.2.2⟩

/-- every missing audit requirement rejects with 400 and leaves the queue untouched; a 200 implies the audit gate
    passed and the batch went in whole -/
theorem publishAudited_all_or_nothing {ac : AuditCfg} {a : Audit} {c : Cfg} {now : Int} {q q' : Q} {ctx : Ctx}
    {items : List Item} {ch : Choice} {resp : PubResp} (h : publishAudited ac a c now q ctx items ch = some (q', resp)) :
    (resp.status = 200 → auditError ac false a = none ∧
      resp.published = items.length ∧ ∀ it ∈ items, trim it.id ∈ q'.msgs.map (·.id)) ∧
    (resp.status ≠ 200 →
      resp.published = 0 ∧ (q' = q ∨ prune c now q ch.gone = some q') ∧ q'.msgs.Sublist q.msgs) := by
  unfold publishAudited at h
  split at h
  · obtain ⟨rfl, rfl⟩ := h
    exact ⟨fun h => by simp at h, fun _ => ⟨rfl, .inl rfl, List.Sublist.refl _⟩⟩
  · rename_i hnone
    have := publish_all_or_nothing h
    exact ⟨fun hs => ⟨hnone, this.1 hs⟩, this.2⟩

example : auditError ⟨false, true, ["ci-bot"], []⟩ true ⟨"r", "ci-bot", ""⟩ = some "audit_request_id_required" ∧
    auditError ⟨false, true, ["ci-bot"], []⟩ true ⟨"r", "ci-bot", "req-1"⟩ = none ∧
    auditError ⟨false, false, [], ["deploy-"]⟩ true ⟨"r", "deploy-7", ""⟩ = none ∧
    auditError ⟨false, false, [], ["deploy-"]⟩ true ⟨"r", "dev", ""⟩ = some "audit_actor_not_allowed" ∧
    auditError ⟨false, false, [], ["deploy-"]⟩ false ⟨"r", "", ""⟩ = none ∧
    auditError ⟨true, false, [], []⟩ false ⟨" ", "x", ""⟩ = some "audit_reason_required" := by decide +kernel

#print axioms audit_ok_spec
#print axioms publishAudited_all_or_nothing

#print axioms first_offender_shape
#print axioms first_offender_item
#print axioms first_offender_existing
#print axioms first_offender_managed
#print axioms pass2_recheck_dead
#print axioms preflight_reject_cases
#print axioms preflight_of_pass2_error
#print axioms accept_implies_all_valid
#print axioms published_shape
#print axioms published_shape'
#print axioms publish_cases
#print axioms publish_all_or_nothing
#print axioms publish_ok_new_ids
#print axioms publish_ids_nodup
#print axioms pinned_first_offender_not_least
#print axioms trim_idem
#print axioms utf8_eq_toUTF8

end Hk.Publish
