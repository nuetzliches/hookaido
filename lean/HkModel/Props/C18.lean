import HkModel.Model.Reload
import HkModel.Model.FileAtomic
import HkModel.Generated.ReloadSteps
/-! C18 — configuration changes apply atomically or not at all. -/
namespace Hk.Reload

theorem setFields_fst (l : Live) (fs : List String) (v : Ver) : (setFields l fs v).map (·.1) = l.map (·.1) := by
  simp only [setFields, List.map_map]
  apply List.map_congr_left
  intro p _
  simp only [Function.comp]
  split <;> rfl

theorem setFields_nil (l : Live) (v : Ver) : setFields l [] v = l := by
  simp [setFields]

/-- all assignments of one attempt carry the same version, so two of them are one assignment of both field lists -/
theorem setFields_append (l : Live) (fs gs : List String) (v : Ver) :
    setFields l (fs ++ gs) v = setFields (setFields l fs v) gs v := by
  simp only [setFields, List.map_map]
  apply List.map_congr_left
  intro p _
  simp only [Function.comp, List.contains_append]
  cases fs.contains p.1 <;> simp

theorem uniform_setFields (l : Live) (fs : List String) (v : Ver) (hcov : ∀ p ∈ l, p.1 ∈ fs) :
    uniform (setFields l fs v) v = true := by
  simp only [uniform, setFields, List.all_map, List.all_eq_true]
  intro p hp
  simp [hcov p hp]

theorem runFrom_cons_fail {e : Ev} (he : e.isFail = true) (rest : List Ev) (i : Nat) (failAt : Option Nat) (l : Live)
    (v : Ver) :
    runFrom (e :: rest) i failAt l v = if failAt = some i then (l, false) else runFrom rest (i + 1) failAt l v := by
  simp only [runFrom, he, ite_true]

theorem runFrom_cons_write {e : Ev} (he : e.isFail = false) (rest : List Ev) (i : Nat) (failAt : Option Nat) (l : Live)
    (v : Ver) : runFrom (e :: rest) i failAt l v = runFrom rest (i + 1) failAt (setFields l e.fields v) v := by
  simp only [runFrom, he, Bool.false_eq_true, ite_false]

theorem runFrom_no_fail_after (rest : List Ev) (h : rest.all (fun x => !x.isFail) = true) :
    ∀ i failAt l v, (runFrom rest i failAt l v).2 = true := by
  induction rest with
  | nil => intros; rfl
  | cons e rest ih =>
    intro i failAt l v
    simp only [List.all_cons, Bool.and_eq_true, Bool.not_eq_true'] at h
    rw [runFrom_cons_write h.1]
    exact ih h.2 _ _ _ _

/-- **A reload that gives up leaves every runtime field as it was**, for any event list whose give-up points all
    precede its writes. -/
theorem failed_reload_unchanged (evs : List Ev) (h : failsFirst evs = true) :
    ∀ i failAt l v, (runFrom evs i failAt l v).2 = false → (runFrom evs i failAt l v).1 = l := by
  induction evs with
  | nil => intro i failAt l v hf; cases hf
  | cons e rest ih =>
    intro i failAt l v hf
    cases he : e.isFail with
    | true =>
      simp only [failsFirst, he] at h
      rw [runFrom_cons_fail he] at hf ⊢
      split
      · rfl
      · rename_i hne
        rw [if_neg hne] at hf
        exact ih h _ _ _ _ hf
    | false =>
      simp only [failsFirst, he] at h
      rw [runFrom_cons_write he, runFrom_no_fail_after rest h] at hf
      cases hf

theorem flatten_writes_cons (e : Ev) (rest : List Ev) :
    (writes (e :: rest)).flatten = e.fields ++ (writes rest).flatten := by
  cases e <;> rfl

theorem runFrom_ok (evs : List Ev) :
    ∀ i failAt l v, (runFrom evs i failAt l v).2 = true →
      (runFrom evs i failAt l v).1 = setFields l (writes evs).flatten v := by
  induction evs with
  | nil => intro _ _ l v _; exact (setFields_nil l v).symm
  | cons e rest ih =>
    intro i failAt l v hs
    rw [flatten_writes_cons, setFields_append]
    cases he : e.isFail with
    | false =>
      rw [runFrom_cons_write he] at hs ⊢
      exact ih _ _ _ _ hs
    | true =>
      have hf : e.fields = [] := by cases e <;> first | rfl | cases he
      rw [runFrom_cons_fail he] at hs ⊢
      split at hs
      · cases hs
      · rename_i hne
        rw [if_neg hne, hf, setFields_nil]
        exact ih _ _ _ _ hs

/-- **A successful reload puts every configuration-carrying field at the new version.** -/
theorem ok_reload_all_new (evs : List Ev) (failAt : Option Nat) (l : Live) (v : Ver)
    (hcov : ∀ p ∈ l, p.1 ∈ (writes evs).flatten) (hs : (run evs failAt l v).2 = true) :
    uniform (run evs failAt l v).1 v = true := by
  rw [run, runFrom_ok evs 0 failAt l v hs]
  exact uniform_setFields l _ v hcov

/-- **One write section ⇒ every observable live state is entirely old or entirely new.** -/
theorem single_swap_atomic (fs : List String) (l : Live) (v : Ver) (hcov : ∀ p ∈ l, p.1 ∈ fs) :
    ∀ s ∈ observable [fs] l v, s = l ∨ uniform s v = true := by
  intro s hs
  simp only [observable, List.mem_cons, List.mem_nil_iff, or_false] at hs
  rcases hs with rfl | rfl
  · exact .inl rfl
  · exact .inr (uniform_setFields l fs v hcov)

theorem no_write_atomic (l : Live) (v : Ver) : ∀ s ∈ observable [] l v, s = l := by
  intro s hs; simpa [observable] using hs

/-- `reloadConfig` with two write sections, as in finding 10: a state in between is a mixture -/
def pinnedTwoPhase : List (List String) :=
  [["pullAuthorize", "workerAuthorize", "adminAuthorize", "pullByRoute", "workerByRoute", "basicByRoute", "forwardByRoute", "hmacByRoute"],
   ["routes", "pathToRoute", "trendSignals", "adaptiveBackpressure", "ingressGlobalLimit", "ingressRouteLimits"]]

theorem pinned_two_phase_mixture :
    ∃ s ∈ observable pinnedTwoPhase (initLive pinnedTwoPhase.flatten 0) 1,
      s ≠ initLive pinnedTwoPhase.flatten 0 ∧ uniform s 1 = false ∧ get s "routes" = some 0 ∧ get s "basicByRoute" = some 1 := by
  refine ⟨setFields (initLive pinnedTwoPhase.flatten 0) pinnedTwoPhase.head! 1, .tail _ (.head _), ?_⟩
  decide +kernel

theorem get_uniform (l : Live) (v : Ver) (h : uniform l v = true) (f : String) (w : Ver) (hg : get l f = some w) : w = v := by
  simp only [get, Option.map_eq_some_iff] at hg
  obtain ⟨p, hp, rfl⟩ := hg
  simp only [uniform, List.all_eq_true, beq_iff_eq] at h
  exact h p (List.mem_of_find?_eq_some hp)

theorem allSame_of_forall (vs : List Ver) (v : Ver) (h : ∀ w ∈ vs, w = v) : allSame vs = true := by
  cases vs with
  | nil => rfl
  | cons a rest =>
    simp only [allSame, List.all_eq_true, beq_iff_eq]
    intro w hw
    rw [h w (List.mem_cons_of_mem _ hw), h a List.mem_cons_self]

/-- **A request all of whose accessor calls run against one uniform live state sees one version** (so with a
    single swap, a request that does not straddle the swap is served entirely by old or entirely by new). -/
theorem request_within_one_state (calls : List (List String)) (l : Live) (v : Ver) (cut : Nat) (h : uniform l v = true) :
    allSame (serve calls cut l l) = true := by
  apply allSame_of_forall _ v
  intro w hw
  simp only [serve, List.mem_flatten, List.mem_map] at hw
  obtain ⟨xs, ⟨p, _, rfl⟩, hw⟩ := hw
  simp only [ite_self, List.mem_filterMap] at hw
  obtain ⟨f, _, hf⟩ := hw
  exact get_uniform l v h f w hf

/-- **…but a request made of separately locked accessor calls can straddle even a single swap**: with two calls that
    read configuration fields, the cut between them yields a mixture.  This is the structure of
    `ingress.Server.ServeHTTP` (resolveIngress, then basicAuthFor, …): known finding 18. -/
theorem per_accessor_calls_can_mix (f g : String) (old new : Ver) (hne : old ≠ new) :
    allSame (serve [[f], [g]] 1 (initLive [f, g] old) (initLive [f, g] new)) = false := by
  have h1 : get [(f, old), (g, old)] f = some old := by simp [get]
  have h2 : get [(f, new), (g, new)] g = some new := by
    by_cases hfg : f = g <;> simp [get, hfg]
  have hs : serve [[f], [g]] 1 (initLive [f, g] old) (initLive [f, g] new) = [old, new] := by
    simp [serve, initLive, h1, h2]
  rw [hs]
  simp [allSame, Ne.symm hne]

/-- runtime fields that do not carry configuration (the lock, the long-lived admission controller which is updated
    in place under the same write section, the clock) -/
def nonConfigFields : List String := ["mu", "adaptiveController", "now"]

def configFields : List String := Gen.runtimeFields.filter (fun f => !nonConfigFields.contains f)

theorem reload_fails_first : failsFirst Gen.reloadEvents = true := by decide
theorem reload_no_unlocked_write : hasUnlocked Gen.reloadEvents = false := by decide
theorem reload_single_write : (writes Gen.reloadEvents).length = 1 := by decide
theorem reload_covers : ∀ f ∈ configFields, f ∈ (writes Gen.reloadEvents).flatten := by decide +kernel

theorem initLive_covered {fields fs : List String} (h : ∀ f ∈ fields, f ∈ fs) (v : Ver) :
    ∀ p ∈ initLive fields v, p.1 ∈ fs := by
  intro p hp
  obtain ⟨f, hf, rfl⟩ := List.mem_map.mp hp
  exact h f hf

/-- **C18 for `reloadConfig` as read from the source** (`Gen.reloadEvents`): whatever give-up point fails, the live state
    is unchanged; and when the attempt succeeds every configuration field is at the new version. -/
theorem reload_all_or_nothing (failAt : Option Nat) (v0 v : Ver) :
    let r := run Gen.reloadEvents failAt (initLive configFields v0) v
    (r.2 = false → r.1 = initLive configFields v0) ∧ (r.2 = true → uniform r.1 v = true) :=
  ⟨failed_reload_unchanged _ reload_fails_first 0 failAt _ v,
    ok_reload_all_new _ _ _ _ (initLive_covered reload_covers v0)⟩

/-- **…and no other goroutine can observe a state between old and new.** -/
theorem reload_observable_old_or_new (v0 v : Ver) :
    ∀ s ∈ observable (writes Gen.reloadEvents) (initLive configFields v0) v,
      s = initLive configFields v0 ∨ uniform s v = true := by
  obtain ⟨fs, hfs⟩ := List.length_eq_one_iff.mp reload_single_write
  have hcov := initLive_covered reload_covers v0
  rw [hfs] at hcov ⊢
  exact single_swap_atomic fs _ v (by simpa using hcov)

/-- every accessor an ingress request calls reads only fields the single write section assigns, or non-config fields -/
theorem ingress_reads_covered :
    ∀ c ∈ Gen.ingressRequestCalls, ∀ p ∈ Gen.accessorReads, p.1 = c →
      ∀ f ∈ p.2, f ∈ nonConfigFields ∨ f ∈ (writes Gen.reloadEvents).flatten := by decide +kernel

end Hk.Reload

namespace Hk.FileAtomic

/-- **At every crash point of one replacement the path holds the complete old or the complete new content.** -/
theorem crash_old_or_new {α} (empty new : α) (d : Dir α) (htemp : d.temp = none) (k : Nat) :
    (finish empty new d (steps.take k)).target = d.target ∨ (finish empty new d (steps.take k)).target = some new := by
  match k with
  | 0 | 1 | 2 | 3 | 4 | 5 => left; rfl
  | 6 => right; rfl
  | k + 7 => right; simp [steps, finish, apply]

theorem replace_complete {α} (empty new : α) (d : Dir α) (htemp : d.temp = none) :
    finish empty new d steps = { target := some new, temp := none } :=
  rfl

/-- the new content reaches the path only through `rename`, i.e. only after it was completely written and synced -/
theorem target_changes_only_at_rename {α} (empty new : α) (d : Dir α) (s : Step) (h : s ≠ .rename) :
    (apply empty new d s).target = d.target := by
  cases s <;> first | rfl | exact absurd rfl h

theorem mem_trace {α} (empty new : α) (ss : List Step) :
    ∀ d, ∀ d' ∈ trace empty new d ss, ∃ k, d' = finish empty new d (ss.take k) := by
  induction ss with
  | nil => intro d d' h; cases h
  | cons s ss ih =>
    intro d d' h
    rcases List.mem_cons.mp h with rfl | h
    · exact ⟨1, rfl⟩
    · obtain ⟨k, rfl⟩ := ih _ d' h
      exact ⟨k + 1, rfl⟩

/-- **A management rewrite**: every directory state has the complete old or complete new content at the path. -/
theorem mutate_states_old_or_new {α} (empty old new : α) (o : Outcome) :
    ∀ d ∈ mutateTrace empty old new o, d.target = some old ∨ d.target = some new := by
  have h1 : ∀ d ∈ trace empty new ⟨some old, none⟩ steps, d.target = some old ∨ d.target = some new := by
    intro d hd
    obtain ⟨k, rfl⟩ := mem_trace _ _ _ _ d hd
    exact crash_old_or_new empty new ⟨some old, none⟩ rfl k
  intro d hd
  cases o
  · exact h1 d hd
  · rcases List.mem_append.mp hd with hd | hd
    · exact h1 d hd
    · -- writing the previous bytes back is a second replacement, starting from the completed first
      rw [replace_complete empty new _ rfl] at hd
      obtain ⟨k, rfl⟩ := mem_trace _ _ _ _ d hd
      exact (crash_old_or_new empty old ⟨some new, none⟩ rfl k).symm

/-- calls that do not touch the directory content -/
def inertCalls : List String := ["MkdirAll", "FileMode", "Stat", "IsNotExist", "Name"]

def stepNames : List String := ["CreateTemp", "Chmod", "Write", "Sync", "Close", "Rename", "syncDir"]

/-- **The code's `writeFileAtomic` (both copies) performs exactly the model's steps in the model's order** — regenerated from
    the source: any additional call on `os` or the temp file in the main flow (an unlink before the rename, a direct
    write to the path, a second rename) breaks this. -/
theorem wfa_steps_match_model :
    Gen.wfaStepsApp.filter (fun c => !inertCalls.contains c) = stepNames ∧
    Gen.wfaStepsMcp.filter (fun c => !inertCalls.contains c) = stepNames ∧ stepNames.length = steps.length := by decide +kernel

theorem mutate_final {α} (empty old new : α) (o : Outcome) :
    ((mutateTrace empty old new o).getLast?.map (·.target)) = some (some (if o = .applied then new else old)) := by
  cases o <;> simp [mutateTrace, trace, steps, apply]

example : (mutateTrace "" "old" "new" .failed).map (·.target) =
    [some "old", some "old", some "old", some "old", some "old", some "new", some "new",
     some "new", some "new", some "new", some "new", some "new", some "old", some "old"] := by decide +kernel

end Hk.FileAtomic
