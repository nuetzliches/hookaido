/-
  The ingress handler's gates, as written (C08 "fails closed", C10, C12: every refusal precedes the store).

  `Model/IngressAuth.flow` is the handler as a chain of gates — route, rate limit, admission pressure, basic auth, bounded body
  read, forward auth, HMAC, header limit, the per-target enqueue loop, 202 — and `Props/C08.lean` proves over it that a denial
  enqueues nothing and that a 202 implies every declared authenticator accepted. That the code *is* such a chain, in that
  order, is what this file checks over `Generated/IngressGates.lean`, the source-order sequence of the handler's accessor /
  verifier calls, status writes and returns, regenerated from `internal/ingress/http.go` on every run.
-/
import HkModel.Generated.IngressGates

namespace Hk.IngressGates

def names (kind : String) (es : List (String × String)) : List String :=
  (es.filter (·.1 == kind)).map (·.2)

theorem ingress_gate_order :
    names "call" Gen.ingressEvents =
      ["resolveRoute", "AllowedMethodsFor", "AllowRequestFor", "AllowEnqueueFor", "BasicAuthFor", "Verify", "LimitsFor",
       "ReadAll", "MaxBytesReader", "ForwardAuthFor", "Authorize", "HMACAuthFor", "Verify", "TargetsFor", "Enqueue"] := by decide +kernel

/-- `flow`: 405 / 404, 429, (pressure status), 401, 413 / 400, (auth service's verdict), 401, 413, 503, 202 -/
theorem ingress_status_order :
    names "write" Gen.ingressEvents =
      ["StatusMethodNotAllowed", "StatusNotFound", "StatusTooManyRequests", "var", "StatusUnauthorized",
       "StatusRequestEntityTooLarge", "StatusBadRequest", "var", "StatusUnauthorized", "StatusRequestEntityTooLarge",
       "StatusServiceUnavailable", "StatusAccepted"] := by decide +kernel

def refusalsReturn : List (String × String) → Bool
  | [] => true
  | e :: rest =>
    (if e.1 == "write" && e.2 != "StatusAccepted" then rest.head? == some ("return", "") else true) && refusalsReturn rest

theorem ingress_refusals_return : refusalsReturn Gen.ingressEvents = true := by decide +kernel

def before (a b : String × String) (es : List (String × String)) : Bool :=
  match es.idxOf? a, es.idxOf? b with
  | some i, some j => decide (i < j)
  | _, _ => false

def lastIdx (a : String × String) (es : List (String × String)) : Option Nat :=
  (es.reverse.idxOf? a).map (fun k => es.length - 1 - k)

theorem ingress_store_after_gates :
    (names "call" Gen.ingressEvents).count "Enqueue" = 1 ∧
    -- every authenticator / limiter call, including the LAST `Verify` (the HMAC one), precedes the store
    (["AllowRequestFor", "AllowEnqueueFor", "BasicAuthFor", "ReadAll", "ForwardAuthFor", "Authorize", "HMACAuthFor", "Verify"].all fun g =>
      match lastIdx ("call", g) Gen.ingressEvents, Gen.ingressEvents.idxOf? ("call", "Enqueue") with
      | some i, some j => decide (i < j)
      | _, _ => false) = true ∧
    (names "write" Gen.ingressEvents).count "StatusAccepted" = 1 ∧
    Gen.ingressEvents.getLast? = some ("write", "StatusAccepted") ∧
    before ("call", "Enqueue") ("write", "StatusAccepted") Gen.ingressEvents = true := by decide +kernel

/-- a handler that goes on after a 401, or enqueues before it verifies, is rejected -/
example : refusalsReturn [("call", "Verify"), ("write", "StatusUnauthorized"), ("call", "Enqueue")] = false := by decide +kernel
example : before ("call", "Enqueue") ("call", "Verify") [("call", "Enqueue"), ("call", "Verify")] = true := by decide +kernel

end Hk.IngressGates
