/-
SQLite: what a state-changing method does before and inside its write transaction, over facts regenerated from
internal/queue/sqlite.go on every run (`Generated/SqliteTx.lean`, go/ast). The sequential queue theorems treat each store
method as atomic; for SQLite that is `everything the method decides on is read inside BEGIN IMMEDIATE … COMMIT`, or the method
is a single statement whose WHERE clause re-checks the state (`Gen.sqlite_guards`).
-/
import HkModel.Generated.SqliteTx

namespace Hk.SqliteTx
open Hk.Gen.SqliteTx

def subset (xs ys : List String) : Bool := xs.all (fun x => ys.contains x)

def callsOf (name : String) : List String :=
  match txCalls.find? (fun p => p.1 == name) with
  | some p => p.2
  | none => ["<missing>"]

def beforeBegin (cs : List String) : List String := cs.takeWhile (· != "BEGIN")
def afterBegin (cs : List String) : List String := (cs.dropWhile (· != "BEGIN")).drop 1

/-- the methods through which messages and leases change state -/
def stateChanging : List String := ["EnqueueBatch", "dequeueOnce", "enqueueWithLimit", "withLease", "withLeaseBatch"]

/-- **nothing a state-changing transaction decides on is read before the transaction is open**: ahead of `BEGIN IMMEDIATE`
    there is only the clock, the retention sweep (its own statements) and — for the single enqueue — the unlocked depth
    estimate that is read again inside -/
theorem decisive_reads_inside_the_transaction :
    stateChanging.all (fun m => (callsOf m).contains "BEGIN" &&
      subset (beforeBegin (callsOf m)) (if m == "enqueueWithLimit" then ["activeDepthCount"] else ["now", "maybePrune"])) = true := by
  decide +kernel

/-- the depth limit is evaluated inside the transaction by both enqueue paths, the leases of a batch operation are looked up
    inside it, and expired leases are swept inside the dequeue's -/
theorem limits_and_leases_read_inside_the_transaction :
    (afterBegin (callsOf "enqueueWithLimit")).contains "activeDepthCountTx" = true ∧
    (afterBegin (callsOf "EnqueueBatch")).contains "activeDepthCountTx" = true ∧
    (afterBegin (callsOf "withLeaseBatch")).contains "lookupLeasesTx" = true ∧
    (afterBegin (callsOf "dequeueOnce")).contains "requeueExpiredLeases" = true := by decide +kernel

/-- a by-filter operation is two steps — select ids, then the BY-IDS operation of the same kind, whose single statement
    re-checks the state of every row (`Gen.sqlite_guards`) — and nothing else -/
theorem by_filter_acts_through_the_checked_operation :
    callsOf "CancelMessagesByFilter" = ["selectMessageIDsByFilter", "CancelMessages"] ∧
    callsOf "RequeueMessagesByFilter" = ["selectMessageIDsByFilter", "RequeueMessages"] ∧
    callsOf "ResumeMessagesByFilter" = ["selectMessageIDsByFilter", "ResumeMessages"] ∧
    callsOf "selectMessageIDsByFilter" = ["DB"] := by decide +kernel

/-- no other method of the store sends more than one statement outside a transaction, except the read-only ones and the
    retention sweep (each of whose statements is complete in itself) -/
theorem multi_statement_methods :
    subset ((txCalls.filter (fun p => !(p.2.contains "BEGIN") && (p.2.filter (· == "DB")).length ≥ 2)).map (·.1))
      ["Stats", "activeDepthCount", "init", "maybePrune"] = true := by decide +kernel

end Hk.SqliteTx
