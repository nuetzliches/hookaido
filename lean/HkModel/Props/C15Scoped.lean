import HkModel.Model.PublishScoped
import HkModel.Props.C15
/-!
  C15 — Admin endpoint-scoped publish (`POST /applications/{application}/endpoints/{endpoint_name}/messages/publish`):
  property theorems over the scoped part of `Hk.Publish` (`Model/PublishScoped.lean`).

  The loops are the schemes of `Proofs/Scan` again, the handler is read as a chain of stages (`ScopedStage`,
  `scopedPreflight_stage`: five gates of its own, then `Stage` of `Props/C15` on the scans of this path; the loop body:
  `scopedItemPass_cases`), the route policy is the global one read with `publish.managed` in the place of
  `publish.direct`, and the store half is `store` of `Props/C15`.
-/
namespace Hk.Publish
open Hk

theorem scopedShapeBad_false_iff {seen : List String} {it : Item} : scopedShapeBad seen it = false ↔
    trim it.id ≠ "" ∧
    (trim it.route ≠ "" → startsSlash (trim it.route) = true) ∧
    ((trim it.app = "") ↔ (trim it.ep = "")) ∧
    (trim it.app ≠ "" → validLabel (trim it.app) = true) ∧
    (trim it.ep ≠ "" → validLabel (trim it.ep) = true) ∧
    trim it.id ∉ seen := by
  simp [scopedShapeBad, and_assoc, Scan.beq_eq_beq]

theorem shapeBad_of_scopedShapeBad {seen : List String} {it : Item} (h : scopedShapeBad seen it = true) :
    shapeBad seen it = true := by
  cases hs : shapeBad seen it with
  | true => rfl
  | false =>
    -- what passes the global tests passes the scoped ones, which are six of the eight
    obtain ⟨h1, _, h3, _, h5, h6, h7, h8⟩ := shapeBad_false_iff.1 hs
    rw [scopedShapeBad_false_iff.2 ⟨h1, h3, h5, h6, h7, h8⟩] at h
    cases h

theorem scopedShapeAux_eq (seen : List String) (k : Nat) (items : List Item) :
    scopedShapeAux seen k items = (Scan.firstBad scopedShapeBad tid seen k items).map (·, "invalid_body") := by
  induction items generalizing seen k with
  | nil => rfl
  | cons it rest ih =>
    rw [scopedShapeAux, Scan.firstBad, ih]
    cases scopedShapeBad seen it <;> rfl

theorem scopedShapePass_eq (items : List Item) :
    scopedShapePass items = (Scan.firstBad scopedShapeBad tid [] 0 items).map (·, "invalid_body") :=
  scopedShapeAux_eq [] 0 items

theorem scoped_first_offender_shape {items : List Item} {i : Nat} {code : String}
    (h : scopedShapePass items = some (i, code)) :
    code = "invalid_body" ∧
    ∃ hi : i < items.length,
      scopedShapeBad (seenBefore items i) items[i] = true ∧
      ∀ j (hj : j < i), scopedShapeBad (seenBefore items j) (items[j]'(Nat.lt_trans hj hi)) = false := by
  rw [scopedShapePass_eq, Option.map_eq_some_iff] at h
  obtain ⟨_, h, heq⟩ := h
  cases heq
  exact ⟨rfl, Scan.firstBad_some h⟩

theorem scopedShapePass_none {items : List Item} (h : scopedShapePass items = none) :
    ∀ j (hj : j < items.length), scopedShapeBad (seenBefore items j) items[j] = false := by
  rw [scopedShapePass_eq, Option.map_eq_none_iff] at h
  exact Scan.firstBad_none h

theorem scopedShapePass_none_nodup {items : List Item} (h : scopedShapePass items = none) :
    (items.map tid).Nodup := by
  rw [scopedShapePass_eq, Option.map_eq_none_iff] at h
  refine Scan.nodup_of_firstBad_none (fun seen it hb => ?_) h
  obtain ⟨-, -, -, -, -, (hid : trim it.id ∉ seen)⟩ := scopedShapeBad_false_iff.1 hb
  exact hid

theorem hasSelectorHints_false {it : Item} (h : hasSelectorHints it = false) :
    trim it.route = "" ∧ trim it.app = "" ∧ trim it.ep = "" := by
  unfold hasSelectorHints at h
  simp only [Bool.or_eq_false_iff, bne_eq_false_iff_eq] at h
  exact ⟨h.1.1, h.1.2, h.2⟩

/-- **`validateScopedManagedSelector` is dead code in the scoped loop.** Behind the selector-hint test (all three
    hints blank) it answers `true` whatever the scope's route, application and endpoint_name are — in particular
    for the real URL values, which the model does not carry. -/
theorem scoped_selector_recheck_dead {it : Item} (h : hasSelectorHints it = false)
    (route application endpointName : String) :
    validateScopedSelector route application endpointName (trim it.route) (trim it.app) (trim it.ep) = true := by
  obtain ⟨hr, ha, he⟩ := hasSelectorHints_false h
  unfold validateScopedSelector
  simp [hr, ha, he, show trim "" = "" by decide]

/-- `publishRoutePolicyError` with `scoped = true` reads `publish.managed` where `scoped = false` reads
    `publish.direct`; nothing else differs -/
theorem scopedPolicyError_eq (ctx : Ctx) (sc : ScopeCtx) (r : RouteInfo) (ts : List String) :
    scopedPolicyError ctx sc r ts = policyError ctx { r with directEnabled := sc.managedEnabled } ts := rfl

theorem scopedPolicyError_none {ctx : Ctx} {sc : ScopeCtx} {r : RouteInfo} {ts : List String}
    (h : scopedPolicyError ctx sc r ts = none) :
    r.publishEnabled = true ∧ sc.managedEnabled = true ∧
    (routeMode r ts = "pull" → ctx.allowPull = true) ∧ (routeMode r ts = "deliver" → ctx.allowDeliver = true) :=
  policyError_none (scopedPolicyError_eq .. ▸ h)

theorem scopedPolicyError_some {ctx : Ctx} {sc : ScopeCtx} {r : RouteInfo} {ts : List String} {code : String}
    (h : scopedPolicyError ctx sc r ts = some code) :
    code = "route_publish_disabled" ∨ code = "pull_route_publish_disabled" ∨
      code = "deliver_route_publish_disabled" :=
  policyError_some (scopedPolicyError_eq .. ▸ h)

/-- What the per-item loop of the scoped path establishes for an item and the envelope prepared from it. -/
structure ScopedPublished (r : RouteInfo) (it : Item) (e : Hk.Env) : Prop where
  noHints : hasSelectorHints it = false
  routeBlank : trim it.route = ""
  appBlank : trim it.app = ""
  epBlank : trim it.ep = ""
  id : e.id = trim it.id
  route : e.route = r.path
  recv : e.recv = it.recv
  next : e.next = it.next
  attempt : e.attempt = 0
  target : e.target ∈ normTargets r.targets
  targetAsked : trim it.target ≠ "" → e.target = trim it.target
  targetOnly : trim it.target = "" → normTargets r.targets = [e.target]
  payload : ∃ bytes, payloadOf it = some bytes ∧ bytes.length ≤ r.maxBody ∧ e.payload = hexOf bytes
  headersValid : validHeaders it.headers = true
  headersFit : headerBytes it.headers ≤ r.maxHeaders
  recvOK : it.recvOK = true
  nextOK : it.nextOK = true

/-- The selector re-check between the hint test and the target resolution never fires
    (`scoped_selector_recheck_dead`): it gets no case. -/
theorem scopedItemPass_cases {P : Except (Nat × String) Hk.Env → Prop} (r : RouteInfo) (it : Item)
    (hinted : P (.error (400, "selector_scope_forbidden")))
    (unresolved : P (.error (400, "target_unresolvable")))
    (prepared : ∀ t, hasSelectorHints it = false → resolveTarget (trim it.target) (normTargets r.targets) = some t →
      P (envelopeFromItem it r.path t r.maxBody r.maxHeaders)) :
    P (scopedItemPass r it) := by
  unfold scopedItemPass
  refine Scan.gate hinted fun hh => ?_
  rw [Bool.not_eq_true] at hh
  rw [scoped_selector_recheck_dead hh, Bool.not_true, if_neg Bool.false_ne_true]
  split
  · exact unresolved
  next t ht => exact prepared t hh ht

theorem scopedItemPass_ok {r : RouteInfo} {it : Item} {e : Hk.Env} (h : scopedItemPass r it = .ok e) :
    ScopedPublished r it e := by
  refine scopedItemPass_cases (P := fun res => res = .ok e → ScopedPublished r it e) r it (fun h => nomatch h)
    (fun h => nomatch h) ?_ h
  intro target hh hres h
  obtain ⟨hr, ha, he⟩ := hasSelectorHints_false hh
  obtain ⟨hmem, hasked, honly⟩ := resolveTarget_mem (fun c hc => (mem_normTargets hc).2.2) hres
  rw [trim_idem] at hasked honly
  obtain ⟨e1, e2, e3, e4, bytes, hb, hlen, rfl⟩ := envelopeFromItem_ok h
  exact {
    noHints := hh, routeBlank := hr, appBlank := ha, epBlank := he,
    id := rfl, route := rfl, recv := rfl, next := rfl, attempt := rfl,
    target := hmem, targetAsked := hasked, targetOnly := honly,
    payload := ⟨bytes, hb, hlen, rfl⟩, headersValid := e3, headersFit := e4, recvOK := e1, nextOK := e2 }

theorem scoped_selector_mismatch_unreachable {r : RouteInfo} {it : Item} {st : Nat} :
    scopedItemPass r it ≠ .error (st, "selector_scope_mismatch") := by
  refine scopedItemPass_cases (P := (· ≠ .error (st, "selector_scope_mismatch"))) r it (by simp) (by simp)
    fun _ _ _ h => ?_
  rcases envelopeFromItem_error h with ⟨_, hc | hc | hc | hc⟩ | ⟨_, hc | hc⟩ <;> exact absurd hc (by decide)

theorem scopedItemPass_error_status {r : RouteInfo} {it : Item} {st : Nat} {code : String}
    (h : scopedItemPass r it = .error (st, code)) : st = 400 ∨ st = 413 := by
  refine scopedItemPass_cases (P := fun res => res = .error (st, code) → st = 400 ∨ st = 413) r it ?_ ?_ ?_ h
  · rintro ⟨⟩; exact .inl rfl
  · rintro ⟨⟩; exact .inl rfl
  · exact fun _ _ _ h => (envelopeFromItem_error h).imp And.left And.left

theorem scopedPass2_eq (r : RouteInfo) (k : Nat) (items : List Item) :
    scopedPass2 r k items = Scan.mapFirstErr (scopedItemPass r) k items := by
  induction items generalizing k with
  | nil => rfl
  | cons it rest ih =>
    unfold scopedPass2 Scan.mapFirstErr
    rw [ih]
    cases scopedItemPass r it with
    | error e => rfl
    | ok e => cases Scan.mapFirstErr (scopedItemPass r) (k + 1) rest <;> rfl

theorem scopedPass2_ok_ids {r : RouteInfo} {items : List Item} {k : Nat} {envs : List Hk.Env}
    (h : scopedPass2 r k items = .ok envs) : envs.map (·.id) = items.map tid := by
  rw [scopedPass2_eq] at h
  exact Scan.map_eq_of_mapFirstErr_ok (fun _ _ he => (scopedItemPass_ok he).id) h

theorem scoped_first_offender_pass {r : RouteInfo} {items : List Item} {i st : Nat} {code : String}
    (h : scopedPass2 r 0 items = .error (i, st, code)) :
    ∃ hi : i < items.length,
      scopedItemPass r items[i] = .error (st, code) ∧
      ∀ j (hj : j < i), ∃ e, scopedItemPass r (items[j]'(Nat.lt_trans hj hi)) = .ok e := by
  rw [scopedPass2_eq] at h
  exact Scan.mapFirstErr_error h

/-- The gates of `scopedPreflight` that answer without looking at the items were silent, `r` being the route of the
    scope. -/
structure ScopedGates (ctx : Ctx) (sc : ScopeCtx) (ac : AuditCfg) (a : Audit) (r : RouteInfo) : Prop where
  enabled : sc.scopedEnabled = true
  route : sc.route = some r
  targets : normTargets r.targets ≠ []
  audit : auditError ac true a = none
  policy : scopedPolicyError ctx sc r (normTargets r.targets) = none

/-- One constructor per gate of `scopedPreflight`, with what is known when it answers: the gates before it were silent;
    behind the gates, the stages that both handlers share. `scopedPreflight ctx sc ac a existing items = o →
    ScopedStage ctx sc ac a existing items o` (`scopedPreflight_stage`); of the converse only the last two stages are
    stated (`scopedPreflight_of_accept`). -/
inductive ScopedStage (ctx : Ctx) (sc : ScopeCtx) (ac : AuditCfg) (a : Audit) (existing : List String)
    (items : List Item) : Outcome → Prop
  | disabled : sc.scopedEnabled = false →
      ScopedStage ctx sc ac a existing items (.reject 403 "scoped_publish_disabled" none)
  | noEndpoint : sc.scopedEnabled = true → sc.route = none →
      ScopedStage ctx sc ac a existing items (.reject 404 "managed_endpoint_not_found" none)
  | noTargets {r} : sc.scopedEnabled = true → sc.route = some r → normTargets r.targets = [] →
      ScopedStage ctx sc ac a existing items (.reject 400 "managed_endpoint_no_targets" none)
  | audit {r code} : sc.scopedEnabled = true → sc.route = some r → normTargets r.targets ≠ [] →
      auditError ac true a = some code → ScopedStage ctx sc ac a existing items (.reject 400 code none)
  | policy {r code} : sc.scopedEnabled = true → sc.route = some r → normTargets r.targets ≠ [] →
      auditError ac true a = none → scopedPolicyError ctx sc r (normTargets r.targets) = some code →
      ScopedStage ctx sc ac a existing items (.reject 403 code none)
  | behind {r o} : ScopedGates ctx sc ac a r →
      Stage items (scopedShapePass items) none (scopedPass2 r 0 items) existing o →
      ScopedStage ctx sc ac a existing items o

theorem scopedPreflight_stage {ctx : Ctx} {sc : ScopeCtx} {ac : AuditCfg} {a : Audit} {existing : List String}
    {items : List Item} {o : Outcome} (h : scopedPreflight ctx sc ac a existing items = o) :
    ScopedStage ctx sc ac a existing items o := by
  subst h
  unfold scopedPreflight
  split
  next hen => exact .disabled (by simpa using hen)
  next hen =>
  have hen : sc.scopedEnabled = true := by simpa using hen
  split
  next hr => exact .noEndpoint hen hr
  next r hr =>
  split
  next ht => exact .noTargets hen hr (by simpa using ht)
  next ht =>
  have ht : normTargets r.targets ≠ [] := by simpa using ht
  split
  next hau => exact .audit hen hr ht hau
  next hau =>
  split
  next hpol => exact .policy hen hr ht hau hpol
  next hpol =>
  refine .behind ⟨hen, hr, ht, hau, hpol⟩ ?_
  split
  next hsz => exact .size (sizeBad_iff.1 hsz)
  next hsz =>
  obtain ⟨hne, hsz⟩ := sizeOK_iff.1 hsz
  split
  next hs => exact .shape hne hsz hs
  next hs =>
  split
  next hp => exact .perItem hne hsz hs rfl hp
  next hp =>
  split
  next hex => exact .stored hne hsz hs rfl hp hex
  next hex => exact .accept hne hsz hs rfl hp hex

/-- Every rejection is the answer of exactly one stage; the stages run in this (Go) order and a later stage only
    runs when all earlier ones were silent. -/
theorem scopedPreflight_reject_cases {ctx : Ctx} {sc : ScopeCtx} {ac : AuditCfg} {a : Audit}
    {existing : List String} {items : List Item} {st : Nat} {code : String} {idx : Option Nat}
    (h : scopedPreflight ctx sc ac a existing items = .reject st code idx) :
    (idx = none ∧ st = 403 ∧ code = "scoped_publish_disabled" ∧ sc.scopedEnabled = false) ∨
    (idx = none ∧ st = 404 ∧ code = "managed_endpoint_not_found" ∧ sc.scopedEnabled = true ∧ sc.route = none) ∨
    (∃ r, sc.scopedEnabled = true ∧ sc.route = some r ∧
      ((idx = none ∧ st = 400 ∧ code = "managed_endpoint_no_targets" ∧ normTargets r.targets = []) ∨
       (normTargets r.targets ≠ [] ∧
        ((idx = none ∧ st = 400 ∧ auditError ac true a = some code) ∨
         (auditError ac true a = none ∧
          ((idx = none ∧ st = 403 ∧ scopedPolicyError ctx sc r (normTargets r.targets) = some code) ∨
           (scopedPolicyError ctx sc r (normTargets r.targets) = none ∧
            ((idx = none ∧ st = 400 ∧ code = "invalid_body" ∧ (items = [] ∨ items.length > 1000)) ∨
             (items ≠ [] ∧ items.length ≤ 1000 ∧
              ((∃ i, idx = some i ∧ st = 400 ∧ scopedShapePass items = some (i, code)) ∨
               (scopedShapePass items = none ∧
                ((∃ i, idx = some i ∧ scopedPass2 r 0 items = .error (i, st, code)) ∨
                 (∃ i envs, idx = some i ∧ st = 409 ∧ code = "duplicate_id" ∧ scopedPass2 r 0 items = .ok envs ∧
                   firstExisting existing (envs.map (·.id)) = some i))))))))))))) := by
  cases scopedPreflight_stage h with
  | disabled hen => exact .inl ⟨rfl, rfl, rfl, hen⟩
  | noEndpoint hen hr => exact .inr (.inl ⟨rfl, rfl, rfl, hen, hr⟩)
  | noTargets hen hr ht => exact .inr (.inr ⟨_, hen, hr, .inl ⟨rfl, rfl, rfl, ht⟩⟩)
  | audit hen hr ht hau => exact .inr (.inr ⟨_, hen, hr, .inr ⟨ht, .inl ⟨rfl, rfl, hau⟩⟩⟩)
  | policy hen hr ht hau hpol => exact .inr (.inr ⟨_, hen, hr, .inr ⟨ht, .inr ⟨hau, .inl ⟨rfl, rfl, hpol⟩⟩⟩⟩)
  | behind g t =>
    -- an answer from behind the gates stands in the innermost disjunct, under the route of the scope
    refine .inr (.inr ⟨_, g.enabled, g.route, .inr ⟨g.targets, .inr ⟨g.audit, .inr ⟨g.policy, ?_⟩⟩⟩⟩)
    cases t with
    | size hsz => exact .inl ⟨rfl, rfl, rfl, hsz⟩
    | shape hne hsz hs => exact .inr ⟨hne, hsz, .inl ⟨_, rfl, rfl, hs⟩⟩
    | managed _ _ _ hm => cases hm
    | perItem hne hsz hs _ hp => exact .inr ⟨hne, hsz, .inr ⟨hs, .inl ⟨_, rfl, hp⟩⟩⟩
    | stored hne hsz hs _ hp hex => exact .inr ⟨hne, hsz, .inr ⟨hs, .inr ⟨_, _, rfl, rfl, rfl, hp, hex⟩⟩⟩

theorem scopedPreflight_reject_status {ctx : Ctx} {sc : ScopeCtx} {ac : AuditCfg} {a : Audit}
    {existing : List String} {items : List Item} {st : Nat} {code : String} {idx : Option Nat}
    (h : scopedPreflight ctx sc ac a existing items = .reject st code idx) :
    st = 400 ∨ st = 403 ∨ st = 404 ∨ st = 409 ∨ st = 413 := by
  cases scopedPreflight_stage h with
  | behind _ t =>
    cases t with
    | perItem _ _ _ _ hp =>
      obtain ⟨_, herr, _⟩ := scoped_first_offender_pass hp
      have := scopedItemPass_error_status herr
      omega
    | _ => decide
  | _ => decide

/-- **An accepted scoped request passed every gate and is valid in every item.** -/
theorem scoped_accept_implies_all_valid {ctx : Ctx} {sc : ScopeCtx} {ac : AuditCfg} {a : Audit}
    {existing : List String} {items : List Item} {envs : List Hk.Env}
    (h : scopedPreflight ctx sc ac a existing items = .accept envs) :
    sc.scopedEnabled = true ∧
    ∃ r, sc.route = some r ∧
      normTargets r.targets ≠ [] ∧
      auditError ac true a = none ∧
      r.publishEnabled = true ∧ sc.managedEnabled = true ∧
      (routeMode r (normTargets r.targets) = "pull" → ctx.allowPull = true) ∧
      (routeMode r (normTargets r.targets) = "deliver" → ctx.allowDeliver = true) ∧
      items ≠ [] ∧ items.length ≤ 1000 ∧
      envs.length = items.length ∧
      (∀ i (h1 : i < items.length) (h2 : i < envs.length),
        scopedItemPass r items[i] = .ok envs[i] ∧
        hasSelectorHints items[i] = false ∧
        envs[i].id = trim items[i].id ∧
        envs[i].route = r.path ∧
        envs[i].target ∈ normTargets r.targets ∧
        (∃ bytes, payloadOf items[i] = some bytes ∧ bytes.length ≤ r.maxBody ∧ envs[i].payload = hexOf bytes) ∧
        validHeaders items[i].headers = true ∧
        headerBytes items[i].headers ≤ r.maxHeaders) ∧
      scopedShapePass items = none ∧
      envs.map (·.id) = items.map (fun it => trim it.id) ∧
      (items.map (fun it => trim it.id)).Nodup ∧
      (∀ it ∈ items, trim it.id ∉ existing) := by
  cases scopedPreflight_stage h with
  | behind g t =>
  cases t with
  | accept hne hsz hs _ hp hex =>
    obtain ⟨hp1, hp2, hp3, hp4⟩ := scopedPolicyError_none g.policy
    obtain ⟨hl, hall⟩ := Scan.mapFirstErr_ok (scopedPass2_eq .. ▸ hp)
    have hids := scopedPass2_ok_ids hp
    refine ⟨g.enabled, _, g.route, g.targets, g.audit, hp1, hp2, hp3, hp4, hne, hsz, hl, fun i h1 h2 => ?_, hs, hids,
      scopedShapePass_none_nodup hs, firstExisting_none (hids ▸ hex)⟩
    have p := scopedItemPass_ok (hall i h1 h2)
    exact ⟨hall i h1 h2, p.noHints, p.id, p.route, p.target, p.payload, p.headersValid, p.headersFit⟩

/-- As on the global path (`preflight_of_accept`), the stored ids enter only in the last stage. -/
theorem scopedPreflight_of_accept {ctx : Ctx} {sc : ScopeCtx} {ac : AuditCfg} {a : Audit} {existing : List String}
    {items : List Item} {envs : List Hk.Env} (h : scopedPreflight ctx sc ac a existing items = .accept envs)
    (existing' : List String) :
    scopedPreflight ctx sc ac a existing' items = match firstExisting existing' (envs.map (·.id)) with
      | some i => .reject 409 "duplicate_id" (some i)
      | none => .accept envs := by
  cases scopedPreflight_stage h with
  | behind g t =>
  cases t with
  | accept hne hsz hs _ hp =>
    simp only [scopedPreflight, g.enabled, g.route, List.isEmpty_eq_false_iff.2 g.targets, g.audit, g.policy,
      if_neg (sizeOK_iff.2 ⟨hne, hsz⟩), hs, hp]
    rfl

theorem scoped_published_shape {ctx : Ctx} {sc : ScopeCtx} {ac : AuditCfg} {a : Audit}
    {existing : List String} {items : List Item} {envs : List Hk.Env}
    (h : scopedPreflight ctx sc ac a existing items = .accept envs) :
    ∃ r, sc.route = some r ∧
      ∀ i (h1 : i < items.length) (h2 : i < envs.length), ScopedPublished r items[i] envs[i] := by
  obtain ⟨_, r, hr, _, _, _, _, _, _, _, _, _, hall, _⟩ := scoped_accept_implies_all_valid h
  exact ⟨r, hr, fun i h1 h2 => scopedItemPass_ok (hall i h1 h2).1⟩

/-- **First offender, at the level of the handler's answer**: behind a silent parse loop, the LEAST index whose
    `scopedItemPass` fails or, when every item passes the loop, the least index whose trimmed id is already stored. -/
theorem scoped_first_offender {ctx : Ctx} {sc : ScopeCtx} {ac : AuditCfg} {a : Audit}
    {existing : List String} {items : List Item} {st i : Nat} {code : String}
    (hs : scopedShapePass items = none)
    (h : scopedPreflight ctx sc ac a existing items = .reject st code (some i)) :
    ∃ r, sc.route = some r ∧ ∃ hi : i < items.length,
      (scopedItemPass r items[i] = .error (st, code) ∧
        ∀ j (hj : j < i), ∃ e, scopedItemPass r (items[j]'(Nat.lt_trans hj hi)) = .ok e) ∨
      (st = 409 ∧ code = "duplicate_id" ∧
        (∀ j (hj : j < items.length), ∃ e, scopedItemPass r items[j] = .ok e) ∧
        trim items[i].id ∈ existing ∧
        ∀ j (hj : j < i), trim (items[j]'(Nat.lt_trans hj hi)).id ∉ existing) := by
  -- an answer with an item index comes from the parse loop, the per-item loop or the stored-id lookup
  cases scopedPreflight_stage h with
  | behind g t =>
  cases t with
  | shape _ _ hs' => rw [hs] at hs'; cases hs'
  | managed _ _ _ hm => cases hm
  | perItem _ _ _ _ hp =>
    obtain ⟨hi, herr, hprev⟩ := scoped_first_offender_pass hp
    exact ⟨_, g.route, hi, .inl ⟨herr, hprev⟩⟩
  | stored _ _ _ _ hp hex =>
    obtain ⟨hl, hall⟩ := Scan.mapFirstErr_ok (scopedPass2_eq .. ▸ hp)
    have hids := scopedPass2_ok_ids hp
    obtain ⟨hi, hmem, hprev⟩ := first_offender_existing hex
    have hi' : i < items.length := by simpa [hids] using hi
    refine ⟨_, g.route, hi', .inr ⟨rfl, rfl, fun j hj => ⟨_, hall j hj (by omega)⟩, ?_, fun j hj => ?_⟩⟩
    · simpa [hids, tid] using hmem
    · simpa [hids, tid] using hprev j hj

theorem scopedPublish_eq_store {ac : AuditCfg} {a : Audit} {sc : ScopeCtx} {c : Cfg} {now : Int} {q : Q} {ctx : Ctx}
    {items : List Item} {ch : Choice} : scopedPublish ac a sc c now q ctx items ch =
      store c now q ch (scopedPreflight ctx sc ac a (q.msgs.map (·.id)) items) := rfl

/-- `scopedPublish_eq_store` on the empty queue with `[]` for its ids, the form in which `DemoScoped.batch2_accept`
    rewrites. -/
theorem scopedPublish_empty {ac : AuditCfg} {a : Audit} {sc : ScopeCtx} {c : Cfg} {now : Int} {ctx : Ctx}
    {items : List Item} {ch : Choice} : scopedPublish ac a sc c now {} ctx items ch =
      store c now {} ch (scopedPreflight ctx sc ac a [] items) := rfl

theorem scopedPreflight_validated (ctx : Ctx) (sc : ScopeCtx) (ac : AuditCfg) (a : Audit) (existing : List String)
    (items : List Item) : Validated existing items (scopedPreflight ctx sc ac a existing items) := by
  cases h : scopedPreflight ctx sc ac a existing items with
  | reject st code idx =>
    have := scopedPreflight_reject_status h
    show st ≠ 200
    omega
  | accept envs =>
    obtain ⟨_, _, _, _, _, _, _, _, _, hne, _, _, _, _, hids, hnd, hex⟩ := scoped_accept_implies_all_valid h
    exact ⟨hne, hids, hex, hnd⟩

/-- **All or nothing, precisely** (the scoped analogue of `publish_cases`). -/
theorem scoped_publish_cases {ac : AuditCfg} {a : Audit} {sc : ScopeCtx} {c : Cfg} {now : Int} {q q' : Q}
    {ctx : Ctx} {items : List Item} {ch : Choice} {resp : PubResp}
    (h : scopedPublish ac a sc c now q ctx items ch = some (q', resp)) :
    (∃ st code idx, scopedPreflight ctx sc ac a (q.msgs.map (·.id)) items = .reject st code idx ∧ q' = q ∧
        resp = ⟨st, code, idx, 0⟩ ∧ st ≠ 200) ∨
    (∃ envs q1, scopedPreflight ctx sc ac a (q.msgs.map (·.id)) items = .accept envs ∧
        prune c now q ch.gone = some q1 ∧
        ((∃ e, q' = q1 ∧ resp = respOfStore (.err e)) ∨
         (resp = ⟨200, "", none, items.length⟩ ∧
          ∃ kept, q'.msgs = kept ++ envs.map (mkMsg now) ∧ kept.Sublist q1.msgs))) :=
  store_cases (scopedPreflight_validated ..) (scopedPublish_eq_store ▸ h)

/-- **All or nothing on the endpoint-scoped path.** Status 200 ⇒ every item was published; any other status ⇒ no
    message was added (the state is the old one, or the old one after the retention prune that every store call
    piggy-backs). -/
theorem scoped_publish_all_or_nothing {ac : AuditCfg} {a : Audit} {sc : ScopeCtx} {c : Cfg} {now : Int} {q q' : Q}
    {ctx : Ctx} {items : List Item} {ch : Choice} {resp : PubResp}
    (h : scopedPublish ac a sc c now q ctx items ch = some (q', resp)) :
    (resp.status = 200 →
      resp.published = items.length ∧ ∀ it ∈ items, trim it.id ∈ q'.msgs.map (·.id)) ∧
    (resp.status ≠ 200 →
      resp.published = 0 ∧ (q' = q ∨ prune c now q ch.gone = some q') ∧ q'.msgs.Sublist q.msgs) :=
  store_all_or_nothing (scopedPreflight_validated ..) (scopedPublish_eq_store ▸ h)

theorem scoped_publish_ok_gates {ac : AuditCfg} {a : Audit} {sc : ScopeCtx} {c : Cfg} {now : Int} {q q' : Q}
    {ctx : Ctx} {items : List Item} {ch : Choice} {resp : PubResp}
    (h : scopedPublish ac a sc c now q ctx items ch = some (q', resp)) (h200 : resp.status = 200) :
    sc.scopedEnabled = true ∧ auditError ac true a = none ∧ sc.managedEnabled = true ∧
    ∃ r, sc.route = some r ∧ r.publishEnabled = true ∧
      ∀ it ∈ items, hasSelectorHints it = false := by
  rcases scoped_publish_cases h with ⟨st, code, idx, _, _, rfl, hst⟩ |
      ⟨envs, q1, hpre, _, ⟨e, _, rfl⟩ | _⟩
  · exact absurd h200 hst
  · exact absurd h200 (respOfStore_err_status e).1
  · obtain ⟨h1, r, hr, _, hau, hpe, hme, _, _, _, _, hlen, hall, _⟩ := scoped_accept_implies_all_valid hpre
    refine ⟨h1, hau, hme, r, hr, hpe, ?_⟩
    intro it hit
    obtain ⟨i, hi, rfl⟩ := List.getElem_of_mem hit
    exact (hall i hi (by omega)).2.1

/-- the scoped path keeps the `nodup` clause of the queue invariant `Hk.Inv` -/
theorem scoped_publish_ids_nodup {ac : AuditCfg} {a : Audit} {sc : ScopeCtx} {c : Cfg} {now : Int} {q q' : Q}
    {ctx : Ctx} {items : List Item} {ch : Choice} {resp : PubResp}
    (h : scopedPublish ac a sc c now q ctx items ch = some (q', resp))
    (hq : (q.msgs.map (·.id)).Nodup) : (q'.msgs.map (·.id)).Nodup :=
  store_ids_nodup (scopedPreflight_validated ..) (scopedPublish_eq_store ▸ h) hq

namespace DemoScoped

/-- direct publish off: the scoped path does not consult `directEnabled` -/
def mPull : RouteInfo :=
  { path := "/managed", targets := ["pull"], publishEnabled := true, directEnabled := false, managed := true,
    mode := "pull", maxBody := 16, maxHeaders := 64 }
/-- two distinct targets: one listed twice, one with surrounding blanks -/
def mDeliver : RouteInfo :=
  { path := "/mout", targets := ["http://a/x", " http://b/y ", "http://a/x"],
    publishEnabled := true, directEnabled := false, managed := true, mode := "deliver",
    maxBody := 16, maxHeaders := 64 }
def ctx : Ctx := { routes := [mPull, mDeliver], allowPull := true, allowDeliver := true }
def scPull : ScopeCtx := { scopedEnabled := true, route := some mPull, managedEnabled := true }
def scDeliver : ScopeCtx := { scopedEnabled := true, route := some mDeliver, managedEnabled := true }
def ac : AuditCfg := { requireActor := false, requireRequestId := false, actorAllow := ["ci-bot"], actorPrefix := [] }
def audit : Audit := { reason := "backfill", actor := "ci-bot", requestId := "" }

def item (id target b64 : String) (h : List (String × String) := []) : Item :=
  { id := id, route := "", target := target, app := "", ep := "", payloadB64 := b64, headers := h,
    recvOK := true, nextOK := true, recv := 0, next := 0 }

def batch2 : List Item := [item " a " "" "aGk=" [("X-A", "1")], item "b" " pull" ""]

end DemoScoped

open DemoScoped in
/-- `batch2` through `scPull` against an empty queue; the validation is evaluated here, once for the examples below
    that publish it -/
theorem DemoScoped.batch2_accept : scopedPreflight ctx scPull ac audit [] batch2 = .accept
    [{ id := "a", route := "/managed", target := "pull", payload := "6869" },
     { id := "b", route := "/managed", target := "pull", payload := "" }] := by decide +kernel

open DemoScoped in
example : scopedPreflight ctx scPull ac audit ["z"] batch2 = .accept
    [{ id := "a", route := "/managed", target := "pull", payload := "6869" },
     { id := "b", route := "/managed", target := "pull", payload := "" }] :=
  (scopedPreflight_of_accept batch2_accept ["z"]).trans (by decide +kernel)

open DemoScoped in
example : (scopedPublish ac audit scPull {} 7 {} ctx batch2 {}).map (fun p => (p.1.msgs.map (·.id), p.2)) =
    some (["a", "b"], ⟨200, "", none, 2⟩) := by
  rw [scopedPublish_empty, batch2_accept]
  decide +kernel

open DemoScoped in
example : (scopedPublish ac audit scPull { maxDepth := 1 } 7 {} ctx batch2 {}).map
    (fun p => (p.1.msgs.map (·.id), p.2)) = some ([], ⟨503, "queue_full", none, 0⟩) := by
  rw [scopedPublish_empty, batch2_accept]
  decide +kernel

open DemoScoped in
/-- `defaults.publish_policy.managed off` -/
example : (scopedPublish ac audit { scPull with scopedEnabled := false } {} 7 {} ctx batch2 {}).map
    (fun p => (p.1.msgs.map (·.id), p.2)) = some ([], ⟨403, "scoped_publish_disabled", none, 0⟩) := by decide +kernel

open DemoScoped in
example : scopedPreflight ctx { scPull with route := none } ac audit [] batch2 =
    .reject 404 "managed_endpoint_not_found" none := by decide +kernel

open DemoScoped in
/-- an item with a route hint — even the scope's own route — is refused, with its index -/
example : scopedPreflight ctx scPull ac audit [] [item "a" "" "", { item "b" "" "" with route := "/managed" }] =
    .reject 400 "selector_scope_forbidden" (some 1) := by decide +kernel

open DemoScoped in
example : scopedPreflight ctx scPull ac audit [] [{ item "a" "" "" with app := "billing", ep := "invoices" }] =
    .reject 400 "selector_scope_forbidden" (some 0) := by decide +kernel

open DemoScoped in
/-- no target on a 2-target deliver route -/
example : scopedPreflight ctx scDeliver ac audit [] [item "a" "http://b/y" "", item "b" "" ""] =
    .reject 400 "target_unresolvable" (some 1) := by decide +kernel

open DemoScoped in
example : scopedPreflight ctx scDeliver ac audit [] [item "a" "http://c/z" ""] =
    .reject 400 "target_unresolvable" (some 0) := by decide +kernel

open DemoScoped in
example : scopedPreflight ctx scPull ac { audit with actor := "dev" } [] batch2 =
    .reject 400 "audit_actor_not_allowed" none := by decide +kernel

open DemoScoped in
example : scopedPreflight ctx scPull ac audit ["b"] batch2 = .reject 409 "duplicate_id" (some 1) :=
  (scopedPreflight_of_accept batch2_accept ["b"]).trans (by decide +kernel)

open DemoScoped in
/-- a stored id, through the queue: publish `batch2`, then a batch that repeats id "a" at index 1 -/
example : ((scopedPublish ac audit scPull {} 7 {} ctx batch2 {}).bind fun p =>
      scopedPublish ac audit scPull {} 8 p.1 ctx [item "c" "" "", item "a" "" ""] {}).map
      (fun p => (p.1.msgs.map (·.id), p.2)) =
    some (["a", "b"], ⟨409, "duplicate_id", some 1, 0⟩) := by
  rw [scopedPublish_empty, batch2_accept]
  decide +kernel

open DemoScoped in
/-- the Go order of the gates: audit before route policy before the 1..1000 rule before the parse loop -/
example :
    scopedPreflight ctx { scPull with managedEnabled := false } ac { audit with actor := "dev" } [] [] =
      .reject 400 "audit_actor_not_allowed" none ∧
    scopedPreflight ctx { scPull with managedEnabled := false } ac audit [] [] =
      .reject 403 "route_publish_disabled" none ∧
    scopedPreflight { ctx with allowPull := false } scPull ac audit [] [] =
      .reject 403 "pull_route_publish_disabled" none ∧
    scopedPreflight { ctx with allowDeliver := false } scDeliver ac audit [] [] =
      .reject 403 "deliver_route_publish_disabled" none ∧
    scopedPreflight ctx scPull ac audit [] [] = .reject 400 "invalid_body" none ∧
    scopedPreflight ctx { scPull with route := some { mPull with targets := [" "] } } ac
      { audit with actor := "dev" } [] batch2 = .reject 400 "managed_endpoint_no_targets" none := by decide +kernel

open DemoScoped in
/-- the parse loop runs over the whole request before the per-item loop: item 0 carries a route hint (a loop error),
    item 1 a blank id (a parse error) — the answer names item 1. A malformed route hint is `invalid_body`, not
    `selector_scope_forbidden`. -/
example :
    scopedPreflight ctx scPull ac audit [] [{ item "a" "" "" with route := "/managed" }, item " " "" ""] =
      .reject 400 "invalid_body" (some 1) ∧
    scopedPreflight ctx scPull ac audit [] [{ item "a" "" "" with route := "managed" }] =
      .reject 400 "invalid_body" (some 0) ∧
    scopedPreflight ctx scPull ac audit [] [item "a" "" "", item "a " "" ""] =
      .reject 400 "invalid_body" (some 1) := by decide +kernel

open DemoScoped in
example : scopedPreflight ctx scPull ac audit [] [item "a" "" "AAAAAAAAAAAAAAAAAAAAAAAA"] =
    .reject 413 "payload_too_large" (some 0) := by decide +kernel

#print axioms scoped_accept_implies_all_valid
#print axioms scoped_published_shape
#print axioms scoped_publish_cases
#print axioms scoped_publish_all_or_nothing
#print axioms scoped_publish_ok_gates
#print axioms scoped_publish_ids_nodup
#print axioms scoped_first_offender_shape
#print axioms scoped_first_offender_pass
#print axioms scoped_first_offender
#print axioms scoped_selector_recheck_dead
#print axioms scoped_selector_mismatch_unreachable
#print axioms scopedPreflight_reject_cases
#print axioms scopedPreflight_reject_status
#print axioms shapeBad_of_scopedShapeBad

end Hk.Publish
