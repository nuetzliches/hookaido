/-
C19 — structural coverage of `config fmt` over the facts regenerated from internal/config on every run
(`Generated/FmtCover.lean`, go/types): necessary conditions of the round trip that hold for *every* directive of the
grammar, including those no test, document or generated text exercises.
-/
import HkModel.Generated.FmtCover

namespace Hk.FmtCover
open Hk.Gen.Fmt

/-- both tables are emitted sorted, so the subsequence test decides inclusion in one pass -/
def covered : List String → List String → Bool
  | [], _ => true
  | _ :: _, [] => false
  | x :: xs, y :: ys => if x == y then covered xs ys else covered (x :: xs) ys

/-- `covered` is core's `List.isSublist` -/
theorem covered_eq_isSublist : ∀ xs ys : List String, covered xs ys = xs.isSublist ys
  | [], _ => by rw [covered, List.isSublist]
  | _ :: _, [] => rfl
  | x :: xs, y :: ys => by
    rw [covered, List.isSublist, covered_eq_isSublist xs ys, covered_eq_isSublist (x :: xs) ys]

theorem covered_iff_sublist {xs ys : List String} : covered xs ys = true ↔ xs.Sublist ys := by
  rw [covered_eq_isSublist, List.isSublist_iff_sublist]

theorem covered_spec (xs ys : List String) (h : covered xs ys = true) : ∀ x ∈ xs, x ∈ ys :=
  fun _ hx => (covered_iff_sublist.mp h).subset hx

theorem filter_sublist_cons_cons {α} {p : α → Bool} {k : α} {ks ws : List α} (h : (ks.filter p).Sublist ws) :
    ((k :: ks).filter p).Sublist (k :: ws) := by
  rw [List.filter_cons]
  split
  · exact h.cons_cons k
  · exact h.cons k

theorem filter_sublist_of_drop {α} {p : α → Bool} {k : α} {ks ws : List α} (hk : p k = false)
    (h : (ks.filter p).Sublist ws) : ((k :: ks).filter p).Sublist ws := by
  rwa [List.filter_cons_of_neg (by simp [hk])]

/-- Whatever the parser can record in the syntax tree, the formatter looks at: no field is set by parser.go that format.go
    never reads (a formatter that ignores a field prints a text that has lost it). -/
theorem formatter_reads_every_parsed_field : covered parserWrites formatterReads = true := by
  -- Evaluating `==` on two string literals makes the kernel UTF-8-encode both, some 30 000 steps per field name; that two
  -- occurrences of one literal are the same it sees at once. So the derivation of `Sublist` is written out, walking down
  -- both tables as `covered` does, instead of having `covered` evaluated.
  refine covered_iff_sublist.mpr ?_
  repeat (first | apply List.Sublist.cons_cons | apply List.Sublist.cons | exact List.nil_sublist _)

theorem every_parsed_field_is_read : ∀ f ∈ parserWrites, f ∈ formatterReads :=
  covered_spec _ _ formatter_reads_every_parsed_field

/-- The formatter prints the tree it was given: it assigns no field of it. -/
theorem formatter_does_not_edit_tree : formatterWrites = [] := by decide +kernel

/-- Every word the parser's case clauses accept can be printed: it occurs in a string literal of format.go or is one of the
    constants kept as data in the tree (the channel names). -/
theorem formatter_prints_every_keyword : covered (parserKeywords.filter (fun k => !treeConstants.contains k)) formatterWords = true := by
  -- The same walk. A keyword that heads both tables is passed whether or not the filter keeps it, so the filter is
  -- evaluated only where the heads differ: there a tree constant is dropped or a word of format.go skipped.
  -- `nil_sublist` is tried last: unifying `[]` with the filtered table would evaluate the filter at every step.
  refine covered_iff_sublist.mpr ?_
  repeat (first
    | apply filter_sublist_cons_cons
    | apply filter_sublist_of_drop (by decide)
    | apply List.Sublist.cons
    | exact List.nil_sublist _)

/-- Every value is written with its own quoted-flag: in each `formatValue(v, q)` / `formatRoutePath(v, q)` call of
    format.go whose arguments are fields of the tree, `q` is the field `v…Quoted`. -/
theorem quoting_flags_are_the_values_own : quotingPairsMismatched = [] := by decide +kernel

theorem cover_tables_nonempty :
    400 ≤ parserWrites.length ∧ 400 ≤ formatterReads.length ∧ 100 ≤ parserKeywords.length ∧ 100 ≤ quotingPairs.length ∧
    "Route.Path" ∈ parserWrites ∧ "APIBlock.MaxBatchQuoted" ∈ parserWrites ∧ "max_batch" ∈ parserKeywords ∧
    "APIBlock.MaxBatch|APIBlock.MaxBatchQuoted" ∈ quotingPairs := by
  refine ⟨by decide +kernel, by decide +kernel, by decide +kernel, by decide +kernel, ?_, ?_, ?_, ?_⟩
  -- membership by walking down the table to the entry, for the reason given at `formatter_reads_every_parsed_field`
  all_goals repeat (first | exact List.Mem.head _ | apply List.Mem.tail)

end Hk.FmtCover
