import HkModel.Proofs.LeaseOps
/-!
  C02 (conservation and legal transitions) for every step of the queue model.

  Every step has the shape `after = before.filterMap g ++ new` with `g` id-preserving; `okWith_of` reduces the
  predicate to what `g` makes of each single message (`Fate`: a survivor made a legal transition, a message that
  went had a legal cause), and each operation supplies its `g`.
-/
namespace Hk
open Hk.Obs

namespace Obs.C02

/-- `C02.disappearOK` and `C02.disappearOK'` (`Obs/Queue.lean`) differ only in which messages of `after` the
    eviction clause does not take for survivors; here that test is the parameter `A`. -/
def disappearWith (A : Rec → Msg → Bool) (r : Rec) (m : Msg) : Bool :=
  (liveLeased r.now m && (presented r.op).contains m.lease && !decide (r.cfg.deliveredRet > 0) &&
    (match leaseKind? r.op with | some .ack => true | _ => false)) ||
  (m.st == .dead && (match r.op with | .byIds .deleteDead ids => (normIds ids).contains m.id | _ => false)) ||
  pruneAllowed r m ||
  (m.st == .queued && r.cfg.dropOldest && r.cfg.maxDepth > 0 && enqueueOK r &&
    r.after.all (fun s => !(s.st == .queued) || A r s || decide (m.recv ≤ s.recv)))

/-- evicted by a successful enqueue: no queued message afterwards is older, those of `new` aside -/
theorem disappearWith_of_evict (A : Rec → Msg → Bool) {r : Rec} {m : Msg} (new : List Msg) (hq : m.st = .queued)
    (hdrop : r.cfg.dropOldest = true) (hdepth : r.cfg.maxDepth > 0) (hok : enqueueOK r = true)
    (hnew : ∀ s ∈ new, A r s = true)
    (hall : ∀ s ∈ r.after, s.st = .queued → (s ∈ new ∨ m.recv ≤ s.recv)) : disappearWith A r m = true := by
  have : r.after.all (fun s => !(s.st == .queued) || A r s || decide (m.recv ≤ s.recv)) = true := by
    rw [List.all_eq_true]
    intro s hs
    cases hsq : (s.st == St.queued) with
    | false => rfl
    | true =>
      rcases hall s hs (by simpa using hsq) with h | h
      · simp [hnew s h]
      · simp [h]
  simp [disappearWith, hq, hdrop, hdepth, hok, this]

end Obs.C02

abbrev OKWith (A : Rec → Msg → Bool) (r : Rec) : Prop := C02.stepOKWith (C02.disappearWith A) r = true

theorem sameIdentity_refl (m : Msg) : sameIdentity m m = true := by simp [sameIdentity]

theorem legalTrans_refl (r : Rec) (m : Msg) : C02.legalTrans r m m = true := by
  rw [C02.legalTrans, beq_self_eq_true]
  rfl

theorem legalTrans_release (r : Rec) {m : Msg} (h : expired r.now m = true) :
    C02.legalTrans r m (release r.now m) = true := by
  obtain ⟨hst, hle⟩ := expired_iff.1 h
  simp [C02.legalTrans, sameIdentity, release, hst, hle]

/-- What a step may make of one message (`none`: the message goes): a legal transition or a legal disappearance,
    and under an error answer nothing but the release of an expired lease or the prune. -/
structure Fate (A : Rec → Msg → Bool) (r : Rec) (m : Msg) (o : Option Msg) : Prop where
  legal : match o with
    | some m' => C02.legalTrans r m m' = true
    | none => C02.disappearWith A r m = true
  -- `generalizing := false`: otherwise the match abstracts `o` in the field `legal` as well
  err : isErr r.resp = true → match (generalizing := false) o with
    | some m' => m' = m ∨ (expired r.now m = true ∧ m' = release r.now m)
    | none => pruneAllowed r m = true

namespace Fate
variable {A : Rec → Msg → Bool} {r : Rec} {m : Msg}

theorem same : Fate A r m (some m) :=
  ⟨legalTrans_refl r m, fun _ => .inl rfl⟩

theorem pruned (h : pruneAllowed r m = true) : Fate A r m none :=
  ⟨by simp [C02.disappearWith, h], fun _ => h⟩

/-- without an error answer only legality is asked for -/
theorem of_ok {o : Option Msg} (hr : isErr r.resp = false)
    (h : match o with
      | some m' => C02.legalTrans r m m' = true
      | none => C02.disappearWith A r m = true) : Fate A r m o :=
  ⟨h, fun he => by rw [hr] at he; cases he⟩

end Fate

theorem enqueueOK_err {r : Rec} (h : isErr r.resp = true) : enqueueOK r = false := by
  obtain ⟨_, _, _, op, resp, _, _⟩ := r
  cases resp with
  | err e => cases op <;> rfl
  | _ => cases h

/-- `new` is what the step stored beside the messages `old` it kept: queued messages under ids of the envelopes of
    this successful enqueue, none of which a kept message carries -/
structure Stored (r : Rec) (old new : List Msg) : Prop where
  nodup : (new.map (·.id)).Nodup
  queued : ∀ n ∈ new, enqueueOK r = true ∧ (envIds r.op).contains n.id = true ∧ n.st = .queued
  fresh : ∀ y ∈ old, ¬ (enqueueOK r = true ∧ (envIds r.op).contains y.id = true)

theorem Stored.nil {r : Rec} {old : List Msg} (h : enqueueOK r = false) : Stored r old [] :=
  ⟨.nil, fun _ hn => absurd hn List.not_mem_nil, fun _ _ hy => Bool.false_ne_true (h.symm.trans hy.1)⟩

/-- Every step has the shape `after = before.filterMap g ++ new` with `g` id-preserving. -/
theorem okWith_of (A : Rec → Msg → Bool) (r : Rec) (g : Msg → Option Msg) (new : List Msg)
    (hnd : (r.before.map (·.id)).Nodup)
    (hafter : r.after = r.before.filterMap g ++ new)
    (hg : ∀ x y, g x = some y → y.id = x.id)
    (hnew : Stored r (r.before.filterMap g) new)
    (hfate : ∀ m ∈ r.before, Fate A r m (g m)) : OKWith A r := by
  have hfindA : ∀ m ∈ r.before, find r.after m.id = (g m).or (find new m.id) := fun m hm => by
    rw [hafter, find_append, find_filterMap hnd hg hm]
  -- a survivor is not "vanished"
  have hnotvan : ∀ m ∈ r.before, ∀ y, g m = some y → vanished r m = false := by
    intro m hm y hy
    have h1 := hnew.fresh y (List.mem_filterMap.2 ⟨m, hm, hy⟩)
    rw [hg m y hy] at h1
    rw [vanished, hfindA m hm, hy]
    simpa using h1
  unfold OKWith C02.stepOKWith
  simp only [Bool.and_eq_true]
  refine ⟨⟨⟨?_, ?_⟩, ?_⟩, ?_⟩
  · unfold C02.nodupIds
    rw [nodupStr_iff, hafter, List.map_append, List.nodup_append]
    refine ⟨nodup_filterMap hnd hg, hnew.nodup, fun a ha b hb => ?_⟩
    obtain ⟨y, hy, rfl⟩ := List.mem_map.1 ha
    obtain ⟨n, hn, rfl⟩ := List.mem_map.1 hb
    -- a new id is one of the envelopes' ids, a survivor's is not
    exact fun h => hnew.fresh y hy ⟨(hnew.queued n hn).1, h ▸ (hnew.queued n hn).2.1⟩
  · rw [List.all_eq_true]
    intro m' hm'
    rw [hafter, List.mem_append] at hm'
    rcases hm' with hm' | hm'
    · obtain ⟨m, hm, hgm⟩ := List.mem_filterMap.1 hm'
      rw [hg m m' hgm, find_of_mem hnd hm]
      simp only [hnotvan m hm m' hgm]
      have := (hfate m hm).legal
      rw [hgm] at this
      exact this
    · obtain ⟨h1, h2, h3⟩ := hnew.queued m' hm'
      cases hf : find r.before m'.id with
      | none => simp only [h1, h2, h3]; rfl
      | some m =>
        have : vanished r m = true := by
          unfold vanished; rw [(find_some hf).2, h1, h2]; simp
        simp [this, h3]
  · rw [List.all_eq_true]
    intro m hm
    have := (hfate m hm).legal
    cases hgm : g m with
    | some y => simp [hnotvan m hm y hgm]
    | none => rw [hgm] at this; simp [this]
  · cases hE : isErr r.resp with
    | false => simp
    | true =>
      -- nothing is stored under an error answer
      obtain rfl : new = [] := List.eq_nil_iff_forall_not_mem.2 fun n hn =>
        Bool.false_ne_true ((enqueueOK_err hE).symm.trans (hnew.queued n hn).1)
      simp only [List.append_nil] at hafter
      simp only [Bool.not_true, Bool.false_or, Bool.and_eq_true, List.all_eq_true]
      refine ⟨fun m' hm' => by simpa using find_isSome_of_mem_filterMap hnd hg (hafter ▸ hm'), fun m hm => ?_⟩
      have := (hfate m hm).err hE
      rw [hafter, find_filterMap hnd hg hm]
      cases hgm : g m with
      | none => rw [hgm] at this; simpa using this
      | some y =>
        rw [hgm] at this
        rcases this with h | ⟨h1, h2⟩
        · simp [h]
        · simp [h1, h2]

/-- A message the prune dropped (`ms'`: the store after the prune) counts as pruned for the observer, provided the
    rest of the step leaves the dead messages as the prune left them. -/
theorem pruneAllowed_of_why {r : Rec} {ms' : List Msg} {m : Msg}
    (hop : prunes r.op = true) (hm : m ∈ r.before) (hw : PruneWhy r.cfg r.now r.before ms' m)
    (hdead : r.after.filter isDead = ms'.filter isDead) : pruneAllowed r m = true := by
  obtain ⟨hcfg, hage | ⟨hd, hdd, hb, ha, hall⟩⟩ := hw
  · exact pruneAllowed_of_age hop hcfg hage
  · unfold pruneAllowed
    rw [hop, hcfg]
    have hcnt : countP isDead r.after = countP isDead ms' := congrArg List.length hdead
    have : r.after.all (fun s => !(s.st == .dead) || !(r.before.any (· == s)) || decide (m.recv ≤ s.recv)) = true := by
      rw [List.all_eq_true]
      intro s hs
      cases hsd : (s.st == St.dead) with
      | false => simp
      | true =>
        have hs' : s ∈ ms'.filter isDead := hdead ▸ List.mem_filter.2 ⟨hs, hsd⟩
        simp [hall hm s (List.mem_filter.1 hs').1 (by simpa using hsd)]
    simp only [Bool.true_and, Bool.or_eq_true, Bool.and_eq_true, decide_eq_true_eq]
    exact .inr ⟨⟨⟨⟨by simp [hd], hdd⟩, hb⟩, by omega⟩, this⟩

/-- a step that first prunes and then acts message by message (`g`) on what the prune left, touching no dead
    message, and stores `new` -/
theorem okWith_of_pruned (A : Rec → Msg → Bool) {c : Cfg} {now : Int} {q q1 : Q} {gone : List String}
    (op : Op) (resp : Resp) (q' : Q) (g : Msg → Option Msg) (new : List Msg)
    (hnd : (q.msgs.map (·.id)).Nodup)
    (hp : prune c now q gone = some q1) (hop : prunes op = true)
    (hafter : q'.msgs = q1.msgs.filterMap g ++ new)
    (hg : ∀ x y, g x = some y → y.id = x.id)
    (hdead : q'.msgs.filter isDead = q1.msgs.filter isDead)
    (hnew : Stored (modelRec c now q op resp q') (q1.msgs.filterMap g) new)
    (hfate : ∀ m ∈ q1.msgs, Fate A (modelRec c now q op resp q') m (g m)) :
    OKWith A (modelRec c now q op resp q') := by
  obtain ⟨keep, hq1, _, _, hwhy⟩ := prune_spec hp
  have hF : q1.msgs.filterMap g = q.msgs.filterMap (fun m => if keep m then g m else none) := by
    rw [hq1, filter_eq_filterMap, List.filterMap_filterMap]
    exact filterMap_congr fun m _ => by split <;> rfl
  refine okWith_of A _ _ new hnd (hF ▸ hafter) (fun x y h => ?_) (hF ▸ hnew) fun m hm => ?_
  · split at h
    · exact hg x y h
    · cases h
  · split
    next hk => exact hfate m (hq1 ▸ List.mem_filter.2 ⟨hm, hk⟩)
    next hk => exact .pruned (pruneAllowed_of_why hop hm (hwhy m (Bool.eq_false_iff.2 hk)) hdead)

theorem C02_unchanged (A : Rec → Msg → Bool) {r : Rec} (hnd : (r.before.map (·.id)).Nodup)
    (hq : r.after = r.before) (hE : enqueueOK r = false) : OKWith A r :=
  okWith_of A r some [] hnd (by simp [hq]) (fun x y h => by cases h; rfl) (.nil hE) fun _ _ => .same

theorem C02_pruneOnly (A : Rec → Msg → Bool) (c : Cfg) (now : Int) (q q1 : Q) (op : Op) (resp : Resp)
    (gone : List String)
    (hnd : (q.msgs.map (·.id)).Nodup)
    (hp : prune c now q gone = some q1) (hop : prunes op = true)
    (hE : enqueueOK (modelRec c now q op resp q1) = false) :
    OKWith A (modelRec c now q op resp q1) :=
  okWith_of_pruned A op resp q1 some [] hnd hp hop (by simp) (fun x y h => by cases h; rfl) rfl (.nil hE)
    fun _ _ => .same

theorem legalTrans_operate (r : Rec) (k : IdKind) (m m' : Msg)
    (hst : (allowedStates k).contains m.st = true)
    (hop : operate r.now k m = some m') (hk : idKindOf? r.op = some k) (hn : namesId r m.id = true) :
    C02.legalTrans r m m' = true := by
  cases k <;> simp [operate, targetState] at hop <;> subst hop <;>
    cases hs : m.st <;> simp [hs, allowedStates] at hst <;>
    simp [C02.legalTrans, sameIdentity, hs, hk, hn]

/-- `byIds` and (not previewing) `byFilter`: `ids` are the selected ids, all of them named by the operation -/
theorem C02_applyIds (A : Rec → Msg → Bool) {r : Rec} {k : IdKind} {ids : List String}
    (hnd : (r.before.map (·.id)).Nodup) (hafter : r.after = applyIds r.now k ids r.before)
    (hk : idKindOf? r.op = some k) (hresp : isErr r.resp = false)
    (hn : ∀ m : Msg, ids.contains m.id = true → namesId r m.id = true)
    (hdel : k = .deleteDead → ∃ ids', r.op = .byIds .deleteDead ids' ∧
      ∀ m : Msg, ids.contains m.id = true → (normIds ids').contains m.id = true) : OKWith A r := by
  refine okWith_of A r (opf r.now k ids) [] hnd (hafter.trans (List.append_nil _).symm) (opf_id r.now k ids)
    (.nil (by cases hop : r.op <;> simp [hop, idKindOf?] at hk <;> simp [enqueueOK, hop])) fun m _ => .of_ok hresp ?_
  cases h : opf r.now k ids m with
  | some m' =>
    rcases opf_cases h with rfl | ⟨hsel, ho⟩
    · exact legalTrans_refl _ _
    · simp only [selectedBy, Bool.and_eq_true] at hsel
      exact legalTrans_operate _ k m m' hsel.2 ho hk (hn m hsel.1)
  | none =>
    unfold opf at h
    split at h
    next hsel =>
      obtain rfl := operate_none h
      simp only [selectedBy, Bool.and_eq_true, allowedStates] at hsel
      have hd : m.st = .dead := by simpa using hsel.2
      obtain ⟨ids', hop, hin⟩ := hdel rfl
      simp [C02.disappearWith, hop, hd, List.contains_iff_mem.1 (hin m hsel.1)]
    · cases h

section lease
variable (A : Rec → Msg → Bool) (r : Rec) (k : LeaseKind) (ids : List String)
  (hk : leaseKind? r.op = some k) (hext : ∀ d, k = .extend d → 0 ≤ d)
  (hpres : ∀ m ∈ r.before, m.st = .leased → m.lease ∈ bids ids → (presented r.op).contains m.lease = true)
include hk hext hpres

/-- whatever a sequence of lease operations makes of `m` is legal: a legal transition, or (an ack without delivered
    retention) a legal disappearance -/
theorem legal_many {m : Msg} (hm : m ∈ r.before) :
    match many r.cfg r.now k ids m with
    | some y => C02.legalTrans r m y = true
    | none => C02.disappearWith A r m = true := by
  by_cases ha : m.st = .leased ∧ m.lease ∈ bids ids
  · have hc := List.contains_iff_mem.1 (hpres m hm ha.1 ha.2)
    by_cases he : m.luntil ≤ r.now
    · rw [many_expired ha.1 ha.2 he]
      exact legalTrans_release r (expired_iff.2 ⟨ha.1, he⟩)
    · have hlive : liveLeased r.now m = true := by simp [liveLeased, ha.1, Int.not_le.1 he]
      cases k with
      | extend d =>
        -- nothing keeps a batch from extending one lease several times, so only the shape of the result is known
        rcases many_extend (hext d rfl) ids m ha.1 (Int.not_le.1 he) with h | ⟨u, h⟩ <;> rw [h]
        · exact legalTrans_refl _ _
        · simp [C02.legalTrans, sameIdentity, ha.1, hlive, hc, hk]
      | ack =>
        rw [many_live (fun _ hd => by cases hd) ha.1 ha.2 he]
        by_cases hr : r.cfg.deliveredRet > 0
        · simp [applyLease, C02.legalTrans, sameIdentity, ha.1, hlive, hc, hk, hr]
        · simp [applyLease, C02.disappearWith, hlive, hc, hk, hr]
      | nack _ | markDead _ =>
        rw [many_live (fun _ hd => by cases hd) ha.1 ha.2 he]
        simp [applyLease, C02.legalTrans, sameIdentity, ha.1, hlive, hc, hk]
  · rw [many_keep ha]
    exact legalTrans_refl _ _

theorem okWith_of_many (hnd : (r.before.map (·.id)).Nodup)
    (hafter : r.after = r.before.filterMap (many r.cfg r.now k ids))
    (herr : isErr r.resp = true → ∀ m ∈ r.before, many r.cfg r.now k ids m = some m ∨
      (expired r.now m = true ∧ many r.cfg r.now k ids m = some (release r.now m))) : OKWith A r := by
  refine okWith_of A _ _ [] hnd (hafter.trans (List.append_nil _).symm) (fun _ _ => many_id)
    (.nil (by cases hop : r.op <;> simp [hop, leaseKind?] at hk <;> simp [enqueueOK, hop]))
    fun m hm => ⟨legal_many A r k ids hk hext hpres hm, fun he => ?_⟩
  rcases herr he m hm with h | ⟨h1, h⟩ <;> rw [h]
  · exact .inl rfl
  · exact .inr ⟨h1, rfl⟩

end lease

theorem filter_map_of_fixed {α : Type} {p : α → Bool} {f : α → α} (l : List α)
    (h : ∀ a ∈ l, f a = a ∨ (p a = false ∧ p (f a) = false)) : (l.map f).filter p = l.filter p := by
  induction l with
  | nil => rfl
  | cons x xs ih =>
    have ih := ih fun a ha => h a (List.mem_cons_of_mem _ ha)
    rcases h x (List.mem_cons_self ..) with hx | ⟨h1, h2⟩
    · rw [List.map_cons, hx, List.filter_cons, List.filter_cons, ih]
    · rw [List.map_cons, List.filter_cons_of_neg (Bool.eq_false_iff.1 h2),
        List.filter_cons_of_neg (Bool.eq_false_iff.1 h1), ih]

/-- sweep and grant touch no dead message and make none -/
theorem housekeeping_dead (c : Cfg) (now ls tt : Int) (picks : List (String × String)) (m : Msg) :
    grant now tt picks (swf c now ls m) = m ∨
      (isDead m = false ∧ isDead (grant now tt picks (swf c now ls m)) = false) := by
  rcases swf_cases c now ls m with hx | ⟨he, hx⟩ <;> rw [hx] <;>
    rcases grant_cases now tt picks _ with hg | ⟨_, _, _, hq, hg⟩ <;> rw [hg]
  · exact .inl rfl
  · exact .inr ⟨by simp [isDead, hq], rfl⟩
  · exact .inr ⟨by simp [isDead, (expired_iff.1 he).1], rfl⟩
  · exact .inr ⟨by simp [isDead, (expired_iff.1 he).1], rfl⟩

theorem C02_dequeue (A : Rec → Msg → Bool) (c : Cfg) (now : Int) (q q0 : Q) (ch : Choice)
    (route target : String) (batch ttl : Int) (hnd : (q.msgs.map (·.id)).Nodup)
    (hp : prune c now q ch.gone = some q0) :
    OKWith A (modelRec c now q (.dequeue route target batch ttl) (.items ch.picks)
      { sweep c now q0 with msgs := (sweep c now q0).msgs.map (grant now (effTTL ttl) ch.picks),
                            issued := (sweep c now q0).issued ++ ch.picks.map (·.2) }) := by
  refine okWith_of_pruned A _ _ _ (fun m => some (grant now (effTTL ttl) ch.picks (swf c now q0.lastSweep m))) []
    hnd hp rfl ?_ (fun x y h => ?_) ?_ (.nil rfl) fun m _ => .of_ok rfl ?_
  · show (sweep c now q0).msgs.map _ = _
    rw [sweep_msgs, List.map_map, List.append_nil, ← List.filterMap_eq_map]
    rfl
  · cases h
    exact (grant_id ..).trans (swf_id ..)
  · show ((sweep c now q0).msgs.map _).filter isDead = _
    rw [sweep_msgs, List.map_map]
    exact filter_map_of_fixed _ fun m _ => housekeeping_dead c now q0.lastSweep (effTTL ttl) ch.picks m
  · -- as it was or released by the sweep, then possibly leased by a pick
    show C02.legalTrans _ m (grant now (effTTL ttl) ch.picks (swf c now q0.lastSweep m)) = true
    have hpk : ∀ x : Msg, x.id = m.id → ∀ p ∈ ch.picks, p.1 = x.id →
        ch.picks.any (·.1 == m.id) = true :=
      fun x hx p hp hid => List.any_eq_true.2 ⟨p, hp, by simpa using hid.trans hx⟩
    rcases swf_cases c now q0.lastSweep m with hx | ⟨hexp, hx⟩ <;> rw [hx]
    · rcases grant_cases now (effTTL ttl) ch.picks m with hg | ⟨p, hp, hid, hq, hg⟩ <;> rw [hg]
      · exact legalTrans_refl _ _
      · simp [C02.legalTrans, sameIdentity, leasedAs, hq, picked, modelRec, hpk m rfl p hp hid]
    · obtain ⟨hst, hle⟩ := expired_iff.1 hexp
      rcases grant_cases now (effTTL ttl) ch.picks (release now m) with hg | ⟨p, hp, hid, _, hg⟩ <;> rw [hg]
      · exact legalTrans_release _ hexp
      · simp [C02.legalTrans, sameIdentity, leasedAs, release, hst, hle, picked, modelRec, hpk (release now m) rfl p hp hid]

def envs : Op → List Env
  | .enqueue e => [e]
  | .enqueueBatch es => es
  | _ => []

theorem envIds_eq (op : Op) : envIds op = (envs op).map (·.id) := by
  cases op <;> rfl

/-- `enqueue` and `enqueueBatch` after the prune; `hA`: the eviction clause takes none of the stored messages for
    a survivor -/
theorem C02_enqueueCore (A : Rec → Msg → Bool) (c : Cfg) (now : Int) (q q1 q' : Q) (op : Op)
    (es : List Env) (single : Bool) (ch : Choice) (resp : Resp) (gone : List String)
    (hnd : (q.msgs.map (·.id)).Nodup)
    (hp : prune c now q gone = some q1)
    (hcore : enqueueCore c now q1 es single ch = some (q', resp))
    (hprunes : prunes op = true)
    (henv : envs op = es)
    (hok : ∀ q'', enqueueOK (modelRec c now q op (if single then .ok else .enqueued es.length) q'') = true)
    (hA : ∀ e ∈ es, A (modelRec c now q op resp q') (mkMsg now e) = true) :
    OKWith A (modelRec c now q op resp q') := by
  rcases enqueueCore_spec hcore with ⟨rfl, e, rfl⟩ | ⟨rfl, keep, rfl, hnew_nd, hdisj, hkq, hcnt, hdrop, hold⟩
  · exact C02_pruneOnly A c now q q' op _ gone hnd hp hprunes (enqueueOK_err rfl)
  · have henvIds : envIds op = es.map (·.id) := henv ▸ envIds_eq op
    have hqueued : ∀ m, keep m = false → m.st = .queued := fun m hk => by simpa [isQueued] using hkq m hk
    refine okWith_of_pruned A _ _ _ (fun m => if keep m then some m else none) (es.map (mkMsg now)) hnd hp hprunes
      (by rw [← filter_eq_filterMap]) (fun x y h => by split at h <;> cases h; rfl) ?_
      ⟨by simpa [Function.comp_def, mkMsg] using hnew_nd, fun n hn => ?_, fun y hy ⟨_, hc⟩ => ?_⟩ fun m hm => ?_
    · -- the evicted messages are queued and so are the new ones
      show (q1.msgs.filter keep ++ es.map (mkMsg now)).filter isDead = _
      have hnew : (es.map (mkMsg now)).filter isDead = [] := List.filter_eq_nil_iff.2 fun s hs => by
        obtain ⟨e, _, rfl⟩ := List.mem_map.1 hs
        simp [isDead, mkMsg]
      rw [List.filter_append, hnew, List.append_nil, List.filter_filter]
      refine List.filter_congr fun x _ => ?_
      cases hk : keep x with
      | true => exact Bool.and_true _
      | false => simp [isDead, hqueued x hk]
    · obtain ⟨e, he, rfl⟩ := List.mem_map.1 hn
      exact ⟨hok _, by simpa [modelRec, henvIds] using ⟨e, he, rfl⟩, rfl⟩
    · simp only [modelRec, henvIds, List.contains_iff_mem] at hc
      obtain ⟨e, he, hey⟩ := List.mem_map.1 hc
      exact hdisj e he y (filter_eq_filterMap keep _ ▸ hy) hey.symm
    · cases hk : keep m with
      | true => exact .same
      | false =>
        -- evicted: one of the oldest queued messages, in favour of the stored ones
        have hneed : needEvict c q1.msgs es.length single > 0 :=
          hcnt ▸ List.length_pos_of_mem (List.mem_filter.2 ⟨hm, by simp [hk]⟩)
        refine .of_ok (by cases single <;> rfl) (C02.disappearWith_of_evict A (es.map (mkMsg now)) (hqueued m hk)
          (hdrop hneed) (needEvict_pos hneed) (hok _) (fun s hs => ?_) fun s hs hsq => ?_)
        · obtain ⟨e, he, rfl⟩ := List.mem_map.1 hs
          exact hA e he
        · exact (List.mem_append.1 hs).elim (fun hs => .inr (hold m hm hk s hs (by simpa [isQueued] using hsq))) .inl

theorem C02_step_gen (A : Rec → Msg → Bool) (c : Cfg) (now : Int) (q q' : Q) (op : Op) (ch : Choice) (r : Resp)
    (hinv : Inv q)
    (hTrim : c.memory = true → ∀ m ∈ q.msgs, m.st = .leased → trimWS m.lease = m.lease)
    (hExt : ∀ d ls, op = .leaseBatch (.extend d) ls → 0 ≤ d)
    (hDel : ∀ f, op = .byFilter .deleteDead f → f.preview = true)
    (hstep : step c now q op ch = some (q', r))
    (hA : ∀ e ∈ envs op, A (modelRec c now q op r q') (mkMsg now e) = true) :
    OKWith A (modelRec c now q op r q') := by
  have hnd := hinv.nodup
  have hL := LInv_of_Inv hinv
  cases step_view hstep with
  | enqueue hp hk => exact C02_enqueueCore A c now q _ q' _ _ true ch r ch.gone hnd hp hk rfl rfl (fun _ => rfl) hA
  | enqueueNone => exact C02_unchanged A hnd rfl (by simp [enqueueOK, modelRec])
  | @enqueueBatch es _ _ _ hne hp hk =>
    refine C02_enqueueCore A c now q _ q' _ es false ch r ch.gone hnd hp hk rfl rfl (fun _ => ?_) hA
    simp [enqueueOK, modelRec, List.length_pos_iff.2 hne]
  | dequeue hp => exact C02_dequeue A c now q _ ch _ _ _ _ hnd hp
  | extendNoop | preview | lookup | restart => exact C02_unchanged A hnd rfl rfl
  | @lease k l0 hk =>
    rw [leaseOne_eq hL, ← many_singleton]
    refine okWith_of_many A _ k [lookupId c l0] rfl (fun d hd => Int.le_of_lt (hk d hd)) (fun m hm hst hl => ?_) hnd rfl
      fun he m hm => ?_
    · -- the observer's trimmed id is the one looked up
      have hml : m.lease = lookupId c l0 := by simpa using (mem_bids.1 hl).1
      have := hml.trans (lookupId_eq hTrim m hm (holds_iff.2 ⟨hst, hml⟩))
      simp [presented, modelRec, this]
    · rw [many_singleton]
      cases ho : outcome now (lookupId c l0) q.msgs with
      | none => simp [modelRec, ho, leaseResp, isErr] at he
      | some e => exact one_of_refused hL ho hm
  | @leaseBatch k ls =>
    rw [fold_msgs hL]
    exact okWith_of_many A _ k (ls.map trimWS) rfl (fun d hd => hExt d ls (hd ▸ rfl))
      (fun m _ _ hl => List.contains_iff_mem.2 (mem_bids.1 hl).1) hnd rfl fun he => by cases he
  | @byIds k ids =>
    exact C02_applyIds A hnd rfl rfl rfl (fun m h => by simpa [modelRec, namesId] using h) fun hk =>
      ⟨ids, hk ▸ rfl, fun _ h => h⟩
  | @byFilter k f hpv =>
    exact C02_applyIds A hnd rfl (by simp [modelRec, idKindOf?, hpv]) rfl (fun m _ => by simp [modelRec, namesId, hpv])
      fun hk => by rw [hDel f (hk ▸ rfl)] at hpv; cases hpv
  | listBad hp | list hp | listDead hp | stats hp => exact C02_pruneOnly A c now q _ _ _ ch.gone hnd hp rfl rfl

theorem disappearOK'_eq :
    C02.disappearOK' = C02.disappearWith fun r s => !(r.before.any (· == s)) || (envIds r.op).contains s.id := by
  funext r m
  simp only [C02.disappearOK', C02.disappearWith, Bool.or_assoc]
  rfl

/-- **C02 for the model, corrected predicate** (`C02.stepOK'`: the eviction clause of `disappearOK` does not
    count a message stored by this very enqueue as a survivor).  Extra hypotheses:
    * `hTrim`: on the memory backend lease ids in use carry no surrounding white space
      (`Trimmed`, an invariant while the generated lease ids carry none);
    * `hExt`: a batch extend has a non-negative duration (the driver offers no batch extend at all);
    * `hDel`: no non-preview delete-dead *by filter* (the driver offers none). -/
theorem C02_model' (c : Cfg) (now : Int) (q q' : Q) (op : Op) (ch : Choice) (r : Resp)
    (hinv : Inv q)
    (hTrim : c.memory = true → ∀ m ∈ q.msgs, m.st = .leased → trimWS m.lease = m.lease)
    (hExt : ∀ d ls, op = .leaseBatch (.extend d) ls → 0 ≤ d)
    (hDel : ∀ f, op = .byFilter .deleteDead f → f.preview = true)
    (hstep : step c now q op ch = some (q', r)) :
    C02.stepOK' (modelRec c now q op r q') = true := by
  rw [C02.stepOK', disappearOK'_eq]
  refine C02_step_gen _ c now q q' op ch r hinv hTrim hExt hDel hstep fun e he => ?_
  have : e.id ∈ envIds op := envIds_eq op ▸ List.mem_map_of_mem he
  simp [modelRec, mkMsg, this]

/-- **C02 for the model, predicate as given** (`C02.stepOK`), with the additional hypothesis `hFresh`:
    no envelope of this enqueue re-creates, field for field, a message that is in the store. -/
theorem C02_model (c : Cfg) (now : Int) (q q' : Q) (op : Op) (ch : Choice) (r : Resp)
    (hinv : Inv q)
    (hTrim : c.memory = true → ∀ m ∈ q.msgs, m.st = .leased → trimWS m.lease = m.lease)
    (hExt : ∀ d ls, op = .leaseBatch (.extend d) ls → 0 ≤ d)
    (hDel : ∀ f, op = .byFilter .deleteDead f → f.preview = true)
    (hFresh : ∀ e ∈ envs op, mkMsg now e ∉ q.msgs)
    (hstep : step c now q op ch = some (q', r)) :
    C02.stepOK (modelRec c now q op r q') = true := by
  show OKWith (fun r s => !(r.before.any (· == s))) _
  refine C02_step_gen _ c now q q' op ch r hinv hTrim hExt hDel hstep fun e he => ?_
  show (!(q.msgs.any (· == mkMsg now e))) = true
  rw [Bool.not_eq_true', List.any_eq_false]
  exact fun x hx hxe => hFresh e he (beq_iff_eq.1 hxe ▸ hx)

#print axioms Hk.C02_model'
#print axioms Hk.C02_model

end Hk
