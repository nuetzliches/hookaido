import HkModel.Proofs.InvStep
/-!
  C14 (operator mutations) holds for every step of the queue model.

  Both operations are `applyIds` with a list of ids: the ones named, or those of the newest matching messages.
  What the predicate asks of single messages is read off the lookup through an id-preserving `filterMap`
  (`effect_of_selected`, `unchanged_eq`). For a filter it remains that the first `n` of the candidates, sorted
  newest first, are `min n` many of them and no older than any other (`take_mergeSort`).
-/
namespace Hk
namespace P14
open Hk.Obs

theorem targetState_not_allowed (k : IdKind) : (allowedStates k).contains (targetState k) = false := by
  cases k <;> rfl

theorem operate_ne (now : Int) (k : IdKind) (m : Msg) (h : (allowedStates k).contains m.st = true) :
    operate now k m ≠ some m := fun e => by
  have hst : m.st = targetState k := congrArg Msg.st (operate_some e)
  rw [hst, targetState_not_allowed] at h
  cases h

section applied
variable {r : Rec} {k : IdKind} {ids : List String} (hnd : (r.before.map (·.id)).Nodup)
  (hafter : r.after = applyIds r.now k ids r.before)
include hnd hafter

theorem known_after : ∀ m' ∈ r.after, (find r.before m'.id).isSome = true := fun m' hm' => by
  rw [hafter, applyIds_eq] at hm'
  exact find_isSome_of_mem_filterMap hnd (opf_id r.now k ids) hm'

theorem find_after {m : Msg} (hm : m ∈ r.before) : find r.after m.id = opf r.now k ids m := by
  rw [hafter, applyIds_eq]
  exact find_filterMap hnd (opf_id r.now k ids) hm

theorem effect_of_selected {m : Msg} (hm : m ∈ r.before) (hs : selectedBy k ids m = true) :
    C14.effect r k m = true := by
  unfold C14.effect
  rw [find_after hnd hafter hm, opf, if_pos hs]
  cases k <;> simp [operate, sameIdentity]

theorem unchanged_eq {m : Msg} (hm : m ∈ r.before) : C14.unchanged r m = !selectedBy k ids m := by
  rw [C14.unchanged, find_after hnd hafter hm, opf]
  cases hs : selectedBy k ids m with
  | false => simp
  | true => simpa using operate_ne r.now k m (Bool.and_eq_true_iff.1 hs).2

end applied

theorem C14_byIds {r : Rec} {k : IdKind} {ids : List String} (hnd : (r.before.map (·.id)).Nodup)
    (hop : r.op = .byIds k ids) (hafter : r.after = applyIds r.now k (normIds ids) r.before)
    (hresp : r.resp = .count (countP (selectedBy k (normIds ids)) r.before)
      (countP (selectedBy k (normIds ids)) r.before) false) : C14.stepOK r = true := by
  simp only [C14.stepOK, hop, hresp, Bool.and_eq_true, List.all_eq_true]
  refine ⟨⟨known_after hnd hafter, fun m hm => ?_⟩, ?_⟩
  · rw [any_filter_id hnd _ hm]
    split
    next hs => exact effect_of_selected hnd hafter hm hs
    next hs =>
      rw [unchanged_eq hnd hafter hm, Bool.not_eq_true']
      exact Bool.eq_false_iff.2 hs
  · exact ⟨⟨beq_self_eq_true (countP _ _), beq_self_eq_true (countP _ _)⟩, rfl⟩

theorem newerFirst_trans (a b c : Msg) (h1 : newerFirst a b = true) (h2 : newerFirst b c = true) :
    newerFirst a c = true := by
  simp only [newerFirst, Bool.or_eq_true, Bool.and_eq_true, decide_eq_true_eq, beq_iff_eq] at *
  rcases h1 with h1 | ⟨e1, l1⟩ <;> rcases h2 with h2 | ⟨e2, l2⟩
  · left; omega
  · left; omega
  · left; omega
  · right; exact ⟨by omega, String.le_trans l2 l1⟩

theorem newerFirst_total (a b : Msg) : (newerFirst a b || newerFirst b a) = true := by
  simp only [newerFirst, Bool.or_eq_true, Bool.and_eq_true, decide_eq_true_eq, beq_iff_eq]
  rcases Int.lt_trichotomy a.recv b.recv with h | h | h
  · right; left; exact h
  · rcases String.le_total a.id b.id with l | l
    · right; right; exact ⟨h.symm, l⟩
    · left; right; exact ⟨h, l⟩
  · left; left; exact h

theorem newer_of_newerFirst (s c : Msg) (h : newerFirst s c = true) (hne : s.id ≠ c.id) :
    C14.newer s c = true := by
  simp only [newerFirst, C14.newer, Bool.or_eq_true, Bool.and_eq_true, decide_eq_true_eq] at *
  rcases h with h | ⟨e, l⟩
  · left; exact h
  · right; exact ⟨e, Std.lt_of_le_of_ne l (Ne.symm hne)⟩

theorem take_mergeSort {α : Type} {le : α → α → Bool} (htrans : ∀ a b c, le a b = true → le b c = true → le a c = true)
    (htotal : ∀ a b, (le a b || le b a) = true) (l : List α) (n : Nat) :
    (∀ x ∈ (l.mergeSort le).take n, x ∈ l) ∧ (l.Nodup → ((l.mergeSort le).take n).Nodup) ∧
    ∀ c ∈ l, c ∈ (l.mergeSort le).take n ∨ ∀ s ∈ (l.mergeSort le).take n, le s c = true := by
  have hperm := List.mergeSort_perm l le
  have hsorted := List.pairwise_mergeSort htrans htotal l
  rw [← List.take_append_drop n (l.mergeSort le), List.pairwise_append] at hsorted
  refine ⟨fun x hx => hperm.subset (List.mem_of_mem_take hx),
    fun hnd => (hperm.nodup_iff.2 hnd).sublist (List.take_sublist ..), fun c hc => ?_⟩
  have : c ∈ (l.mergeSort le).take n ++ (l.mergeSort le).drop n := by
    rw [List.take_append_drop]
    exact hperm.mem_iff.2 hc
  exact (List.mem_append.1 this).imp_right fun hR s hs => hsorted.2.2 s hs c hR

theorem selectFilter_length (k : IdKind) (f : Filter) (ms : List Msg) :
    (selectFilter k f ms).length = min (effLimit f.limit) (ms.filter (matchesFilter k f)).length := by
  simp only [selectFilter, List.length_map, List.length_take, (List.mergeSort_perm _ _).length_eq]

theorem allowed_of_matches (k : IdKind) (f : Filter) (m : Msg) (h : matchesFilter k f m = true) :
    (allowedStates k).contains m.st = true := by
  simp only [matchesFilter, Bool.and_eq_true] at h
  have h1 := h.1.1.1
  unfold filterStates at h1
  split at h1
  · exact h1
  · split at h1
    · split at h1
      · next hs =>
        simp only [List.contains_cons, List.contains_nil, Bool.or_false, beq_iff_eq] at h1
        rw [h1]; exact hs
      · simp at h1
    · simp at h1

theorem C14_byFilter_preview {r : Rec} {k : IdKind} {f : Filter} (hnd : (r.before.map (·.id)).Nodup)
    (hop : r.op = .byFilter k f) (hp : f.preview = true) (hafter : r.after = r.before)
    (hresp : r.resp = .count 0 (selectFilter k f r.before).length true) : C14.stepOK r = true := by
  simp only [C14.stepOK, hop, hresp, hafter, if_pos hp, selectFilter_length, Bool.and_eq_true,
    List.all_eq_true, beq_self_eq_true, and_true]
  exact fun m hm => by rw [find_of_mem hnd hm]; rfl

theorem C14_byFilter_apply {r : Rec} {k : IdKind} {f : Filter} (hnd : (r.before.map (·.id)).Nodup)
    (hop : r.op = .byFilter k f) (hp : f.preview = false)
    (hafter : r.after = applyIds r.now k (selectFilter k f r.before) r.before)
    (hresp : r.resp = .count (selectFilter k f r.before).length (selectFilter k f r.before).length false) :
    C14.stepOK r = true := by
  obtain ⟨hLc, hLnd, hLold⟩ := take_mergeSort newerFirst_trans newerFirst_total
    (r.before.filter (matchesFilter k f)) (effLimit f.limit)
  have hLlen := selectFilter_length k f r.before
  replace hLnd := hLnd ((nodup_of_ids hnd).sublist List.filter_sublist)
  have hsel : selectFilter k f r.before =
      (((r.before.filter (matchesFilter k f)).mergeSort newerFirst).take (effLimit f.limit)).map (·.id) := rfl
  generalize ((r.before.filter (matchesFilter k f)).mergeSort newerFirst).take (effLimit f.limit) = L at *
  rw [hsel, List.length_map] at hLlen
  have hLb : ∀ x ∈ L, x ∈ r.before := fun x hx => (List.mem_filter.1 (hLc x hx)).1
  -- for a stored message, being selected is being in `L`
  have hselL : ∀ m ∈ r.before, selectedBy k (selectFilter k f r.before) m = true ↔ m ∈ L := by
    intro m hm
    simp only [selectedBy, hsel, Bool.and_eq_true, List.contains_eq_mem, decide_eq_true_eq, List.mem_map]
    constructor
    · rintro ⟨⟨x, hx, hid⟩, _⟩
      exact eq_of_id_eq hnd (hLb x hx) hm hid ▸ hx
    · exact fun h => ⟨⟨m, h, rfl⟩, by simpa using allowed_of_matches k f m (List.mem_filter.1 (hLc m h)).2⟩
  -- so the messages that changed are those of `L`
  have hmem : ∀ m, m ∈ r.before.filter (fun m => !C14.unchanged r m) ↔ m ∈ L := by
    intro m
    rw [List.mem_filter]
    constructor
    · rintro ⟨hm, hu⟩
      rw [unchanged_eq hnd hafter hm, Bool.not_not] at hu
      exact (hselL m hm).1 hu
    · exact fun h => ⟨hLb m h, by rw [unchanged_eq hnd hafter (hLb m h), Bool.not_not]; exact (hselL m (hLb m h)).2 h⟩
  have hlen : (r.before.filter (fun m => !C14.unchanged r m)).length = L.length :=
    ((List.perm_ext_iff_of_nodup ((nodup_of_ids hnd).sublist List.filter_sublist) hLnd).2 hmem).length_eq
  simp only [C14.stepOK, hop, hresp, hp, hsel, List.length_map, hlen, hLlen, Bool.false_eq_true, if_false,
    Bool.and_eq_true, Bool.or_eq_true, List.all_eq_true, List.any_eq_true, beq_iff_eq, hmem,
    true_and]
  refine ⟨known_after hnd hafter, fun m hm => ⟨⟨m, hLc m hm, rfl⟩,
    effect_of_selected hnd hafter (hLb m hm) ((hselL m (hLb m hm)).2 hm)⟩, fun c hc => ?_⟩
  by_cases hcL : c ∈ L
  · exact .inl ⟨c, hcL, rfl⟩
  · exact .inr fun s hs => newer_of_newerFirst s c ((hLold c hc).resolve_left hcL s hs) fun hid =>
      hcL (eq_of_id_eq hnd (hLb s hs) (List.mem_filter.1 hc).1 hid ▸ hs)

theorem C14_model (c : Cfg) (now : Int) (q q' : Q) (op : Op) (ch : Choice) (r : Resp)
    (hinv : Inv q) (hstep : step c now q op ch = some (q', r)) :
    C14.stepOK (modelRec c now q op r q') = true := by
  cases op with
  | byIds k ids =>
    cases step_view hstep with
    | byIds => exact C14_byIds hinv.nodup rfl rfl rfl
  | byFilter k f =>
    cases step_view hstep with
    | preview hp => exact C14_byFilter_preview hinv.nodup rfl hp rfl rfl
    | byFilter hp => exact C14_byFilter_apply hinv.nodup rfl hp rfl rfl
  | _ => rfl

end P14
end Hk

#print axioms Hk.P14.C14_model
