import HkModel.Model.Dispatch
import HkModel.Proofs.Scan
import Mathlib.Algebra.Group.Int.Defs
/-!
  C06 — push outcome classification, bounded retry with back-off, DLQ.
  The Mathlib import is for the statements of `backoff_le_cap` and `delay_bounds`: with it `2 ^ (a - 1)` is the power of
  Mathlib's `Monoid` structure on `Int`; without it the same text elaborates to core's `Int.pow`, another statement.
-/
namespace Hk.Dispatch

/-- `classify` tests `shouldRetry` twice, once together with `attempt ≤ max` and once alone; this folds the two
    tests into one nested `if` — the one idea of `classify_spec`. -/
theorem ite_and_else {α} {p q : Prop} [Decidable p] [Decidable q] (a b c : α) :
    (if p ∧ q then a else if p then b else c) = if p then (if q then a else b) else c := by
  by_cases hp : p <;> simp [hp]

theorem classify_spec (r : Res) (attempt max : Int) :
    classify r attempt max =
      match r with
      | .status n =>
          if 200 ≤ n ∧ n < 300 then .ack
          else if n = 408 ∨ n = 429 ∨ 500 ≤ n then (if attempt ≤ max then .retry else .dead "max_retries")
          else .dead "no_retry"
      | .err => if attempt ≤ max then .retry else .dead "max_retries"
      | .policyDenied => .dead "policy_denied" := by
  cases r with
  | status n =>
    simp only [classify, isSuccess, shouldRetry, Bool.and_eq_true, Bool.or_eq_true, decide_eq_true_eq, beq_iff_eq,
      or_assoc, reduceCtorEq, if_false, ite_and_else]
  | err => simp [classify, isSuccess, shouldRetry]
  | policyDenied => rfl

theorem non2xx_never_success (n : Int) (attempt max : Int) (h : n < 200 ∨ 300 ≤ n) :
    classify (.status n) attempt max ≠ .ack := by
  rw [classify_spec]
  have h1 : ¬ (200 ≤ n ∧ n < 300) := by omega
  simp only [h1, if_false]
  split
  · split <;> nofun
  · nofun

theorem other_4xx_dead_no_retry (n attempt max : Int) (h2 : n < 500) (h3 : n < 200 ∨ 300 ≤ n)
    (h4 : n ≠ 408) (h5 : n ≠ 429) : classify (.status n) attempt max = .dead "no_retry" := by
  rw [classify_spec]
  have h1 : ¬ (200 ≤ n ∧ n < 300) := by omega
  have h6 : ¬ (n = 408 ∨ n = 429 ∨ 500 ≤ n) := by omega
  simp only [h1, h6, if_false]

theorem policy_denied_never_retried (attempt max : Int) :
    classify .policyDenied attempt max = .dead "policy_denied" :=
  classify_spec ..

theorem retry_implies_attempt_le (r : Res) (attempt max : Int) (h : classify r attempt max = .retry) :
    attempt ≤ max := by
  -- read along the cascade, `.retry` is the answer of the second test alone
  simp only [classify, Scan.ite_eq_iff, reduceCtorEq, and_false, or_false, false_or, and_true, Bool.and_eq_true,
    decide_eq_true_eq] at h
  exact h.2.2

theorem terminal_reasons (r : Res) (attempt max : Int) :
    classify r attempt max = .ack ∨ classify r attempt max = .retry ∨
    classify r attempt max = .dead "no_retry" ∨ classify r attempt max = .dead "max_retries" ∨
    classify r attempt max = .dead "policy_denied" := by
  unfold classify
  repeat' split
  all_goals simp

/-- **Bounded sends, always settled**, from any attempt counter `a₀` and against *any* sequence of target behaviours. -/
theorem cycle_settles (beh : Nat → Res) (max : Int) :
    ∀ (fuel : Nat) (a₀ : Int) (k : Nat), (max + 1 - a₀).toNat < fuel + 1 → 0 < fuel →
      let c := cycle beh max fuel a₀ k
      (c.2 = some .ack ∨ c.2 = some (.dead "no_retry") ∨ c.2 = some (.dead "max_retries") ∨
        c.2 = some (.dead "policy_denied")) ∧
      1 ≤ c.1 ∧ (c.1 : Int) ≤ Max.max 1 (max + 1 - a₀) := by
  intro fuel
  induction fuel with
  | zero => intro _ _ _ h; cases h
  | succ n ih =>
    intro a₀ k hf _
    rcases terminal_reasons (beh k) (a₀ + 1) max with h | h | h | h | h
    case inr.inl =>
      have hle := retry_implies_attempt_le _ _ _ h
      have ⟨hfin, h1, hs⟩ := ih (a₀ + 1) (k + 1) (by omega) (by omega)
      simp only [cycle, h]
      exact ⟨hfin, by omega, by omega⟩
    all_goals simp only [cycle, h]; exact ⟨by simp, Nat.le_refl 1, by omega⟩

/-- `cycle_settles` for attempt counters as they occur (`a₀ ≥ 0`) -/
theorem sends_bounded (beh : Nat → Res) (max : Int) :
    ∀ (fuel : Nat) (a₀ : Int) (k : Nat), 0 ≤ a₀ → (max + 1 - a₀).toNat < fuel + 1 → 0 < fuel →
      let (s, f) := cycle beh max fuel a₀ k
      (f = some .ack ∨ f = some (.dead "no_retry") ∨ f = some (.dead "max_retries") ∨ f = some (.dead "policy_denied")) ∧
      1 ≤ s ∧ (s : Int) ≤ Max.max 1 (max + 1 - a₀) :=
  fun fuel a₀ k _ => cycle_settles beh max fuel a₀ k

/-- hence at most `retry.max + 1` sends per enqueue/requeue cycle (attempt counter starts at 0) -/
theorem sends_le_max_plus_one (beh : Nat → Res) (max : Int) (hmax : 0 ≤ max) (k : Nat) :
    (cycle beh max (max.toNat + 2) 0 k).1 ≤ max.toNat + 1 ∧ (cycle beh max (max.toNat + 2) 0 k).2 ≠ none := by
  have ⟨hfin, _, hs⟩ := cycle_settles beh max (max.toNat + 2) 0 k (by omega) (by omega)
  refine ⟨by omega, ?_⟩
  rcases hfin with h | h | h | h <;> rw [h] <;> nofun

theorem backoff_eq_min (base cap : Int) (a : Nat) (hc : 0 < cap) :
    backoff base cap a = min (base * 2 ^ (a - 1)) cap := by
  simp only [backoff, hc, decide_true, Bool.true_and, decide_eq_true_eq]
  omega

/-- the disjuncts are the two regimes of `backoff` (`cap ≤ 0` means no cap: the right one); under `hc` only the
    left one occurs -/
theorem backoff_le_cap (base cap : Int) (a : Nat) (hc : 0 < cap) : backoff base cap a ≤ cap ∨ backoff base cap a = base * 2 ^ (a - 1) :=
  .inl (backoff_eq_min base cap a hc ▸ Int.min_le_right ..)

theorem backoff_nonneg (base cap : Int) (a : Nat) (hb : 0 < base) (hc : 0 < cap) : 0 ≤ backoff base cap a :=
  backoff_eq_min base cap a hc ▸
    Int.le_min.mpr ⟨Int.mul_nonneg (Int.le_of_lt hb) (Int.pow_nonneg (by decide)), Int.le_of_lt hc⟩

/-- `⌊X·w / (u·j)⌋` for a weight `w` between `u·L` and `u·U`, multiplied out by `j`: the `u` cancels. -/
theorem scaled_floor_bounds {X w u j L U : Int} (hX : 0 ≤ X) (hu : 0 < u) (hj : 0 < j) (hL : u * L ≤ w) (hU : w ≤ u * U) :
    j * (X * w / (u * j)) ≤ X * U ∧ X * L < j * (X * w / (u * j) + 1) ∧ (0 ≤ L → 0 ≤ X * w / (u * j)) := by
  have hd : 0 < u * j := Int.mul_pos hu hj
  have h1 := Int.mul_ediv_self_le (x := X * w) (Int.ne_of_gt hd)
  have h2 := Int.lt_mul_ediv_self_add (x := X * w) hd
  have h3 := Int.mul_le_mul_of_nonneg_left hL hX
  have h4 := Int.mul_le_mul_of_nonneg_left hU hX
  refine ⟨Int.le_of_mul_le_mul_left (a := u) ?_ hu, Int.lt_of_mul_lt_mul_left (a := u) ?_ (Int.le_of_lt hu),
    fun h => Int.ediv_nonneg (Int.mul_nonneg hX (Int.le_trans (Int.mul_nonneg (Int.le_of_lt hu) h) hL)) (Int.le_of_lt hd)⟩
  -- products in one normal form, then it is linear
  all_goals simp only [Int.mul_add, Int.mul_one, Int.mul_assoc, Int.mul_left_comm] at *; omega

/-- the weight of a draw `un/u ∈ [0,1]` under jitter `jn/jd`, times `u·jd`, lies between `1 − j` and `1 + j` -/
theorem jitter_weight {u un jd jn : Int} (hu0 : 0 ≤ un) (hu1 : un ≤ u) (hj : 0 ≤ jn) :
    u * (jd - jn) ≤ u * jd + (2 * un - u) * jn ∧ u * jd + (2 * un - u) * jn ≤ u * (jd + jn) := by
  have h0 := Int.mul_nonneg hu0 hj
  have h1 := Int.mul_le_mul_of_nonneg_right hu1 hj
  rw [Int.mul_sub, Int.mul_add, Int.sub_mul, Int.mul_assoc]
  omega

/-- **Delay bounds.** For compile-accepted retry settings (`0 < base ≤ cap`, `0 ≤ j = jn/jd ≤ 1`) and any
    random draw `u = un/ud ∈ [0,1)`, with `X = min(base·2^(attempt−1), cap)`:
    `X·(1−j) − 1 < retryDelay ≤ X·(1+j)` (i.e. ⌊X(1−j)⌋ ≤ delay), including the region where `2^(attempt−1)` is astronomically
    large (the `min` with `cap` applies first). Stated multiplied out by the positive denominators. -/
theorem delay_bounds (base cap : Int) (a : Nat) (jn jd un ud : Int)
    (hb : 0 < base) (hc : 0 < cap) (hjd : 0 < jd) (hj0 : 0 ≤ jn) (hj1 : jn ≤ jd)
    (hud : 0 < ud) (hu0 : 0 ≤ un) (hu1 : un < ud) :
    let X := min (base * 2 ^ (a - 1)) cap
    let d := retryDelay base cap a jn jd un ud
    0 ≤ d ∧ jd * d ≤ X * (jd + jn) ∧ X * (jd - jn) < jd * (d + 1) := by
  intro X d
  have hX : backoff base cap a = X := backoff_eq_min _ _ _ hc
  have hX0 : 0 ≤ X := hX ▸ backoff_nonneg base cap a hb hc
  have ⟨hL, hU⟩ := jitter_weight (jd := jd) hu0 (Int.le_of_lt hu1) hj0
  have ⟨h2, h3, h0⟩ := scaled_floor_bounds hX0 hud hjd hL hU
  -- the delay is the floor, also without jitter (`jn = 0`, where the code returns `X` at once)
  have hd : d = X * (ud * jd + (2 * un - ud) * jn) / (ud * jd) := by
    simp only [d, retryDelay, hX, if_neg (Int.not_le.mpr hb)]
    split
    · have : jn = 0 := by omega
      subst this
      rw [Int.mul_zero, Int.add_zero, Int.mul_ediv_cancel _ (Int.ne_of_gt (Int.mul_pos hud hjd))]
    · simp only [if_neg (Int.not_lt.mpr hj1)]
      exact if_neg (Int.not_lt.mpr (h0 (by omega)))
  rw [hd]
  exact ⟨h0 (by omega), h2, h3⟩

theorem le_maxTimeout (ts : List Int) (t : Int) (ht : t ∈ ts) : tmo t ≤ maxTimeout ts := by
  induction ts with
  | nil => cases ht
  | cons x xs ih =>
    simp only [maxTimeout]
    rcases List.mem_cons.mp ht with rfl | h
    · omega
    · have := ih h; omega

/-- **C03**: the lease a push worker takes covers `batch` sequential deliveries at the largest target timeout plus
    the slack, and is never shorter than 30 s -/
theorem ttl_budget (timeouts : List Int) (slack batch : Int) (hb : 1 ≤ batch) (t : Int) (ht : t ∈ timeouts) :
    tmo t * batch + slack ≤ routeLeaseTTL timeouts slack batch ∧
    30000000000 ≤ routeLeaseTTL timeouts slack batch := by
  have hm : tmo t * batch ≤ maxTimeout timeouts * batch :=
    Int.mul_le_mul_of_nonneg_right (le_maxTimeout timeouts t ht) (by omega)
  simp only [routeLeaseTTL, if_neg (show ¬ batch ≤ 0 by omega)]
  omega

/-- **C03**: the worker's dequeue batch, which `Start` hands to `routeLeaseTTL` as the `batch` of `ttl_budget`, lies
    between 1 and 4 (so `hb` there holds) -/
theorem dequeue_batch_le_four (c n : Int) : 1 ≤ routeDequeueBatch c n ∧ routeDequeueBatch c n ≤ 4 := by
  unfold routeDequeueBatch
  repeat' split
  all_goals omega

example : classify (.status 503) 3 3 = .retry ∧ classify (.status 503) 4 3 = .dead "max_retries" ∧
    classify (.status 404) 1 3 = .dead "no_retry" ∧ classify (.status 302) 1 3 = .dead "no_retry" ∧
    classify (.status 204) 9 3 = .ack := by decide
example : (cycle (fun _ => .status 500) 3 5 0 0) = (4, some (.dead "max_retries")) := by decide
example : retryDelay 1000 8000 3 1 2 3 4 = 5000 := by decide   -- X = 4000, j = 1/2, u = 3/4: 4000·(1 + 0.25) = 5000

end Hk.Dispatch
