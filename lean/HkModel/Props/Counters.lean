/-
  The SQLite store's admission test counts what C12 says it counts: `queue_limits.max_depth` is tested against
  `queued + leased` read from `queue_counters`, two integers maintained by the triggers of schemaV6 in sqlite.go. The
  triggers, the initialising statement and the two readers are those regenerated from the code on every run
  (`Generated/Triggers.lean`).
-/
import HkModel.Model.Queue
import HkModel.Generated.Triggers

namespace Hk.Counters

theorem evalTerms_append (a b : List Term) (o n : String) :
    evalTerms (a ++ b) o n = evalTerms a o n + evalTerms b o n := by
  induction a with
  | nil => simp [evalTerms]
  | cons t a ih => simp only [evalTerms, List.cons_append, List.foldr_cons] at *; omega

theorem sumSigns_cons (t : Term) (ts : List Term) (b : Bool) :
    sumSigns (t :: ts) b = (if t.isNew == b then t.sign else 0) + sumSigns ts b := by
  unfold sumSigns
  by_cases h : (t.isNew == b) = true <;> simp [h]

theorem evalTerms_all (ts : List Term) (st o n : String) (h : ts.all (·.st == st) = true) :
    evalTerms ts o n = sumSigns ts true * ind (n == st) + sumSigns ts false * ind (o == st) := by
  induction ts with
  | nil => simp [evalTerms, sumSigns]
  | cons t ts ih =>
    simp only [List.all_cons, Bool.and_eq_true] at h
    have ht : t.st = st := by simpa using h.1
    have ih := ih h.2
    rw [sumSigns_cons, sumSigns_cons]
    simp only [evalTerms, List.foldr_cons] at ih ⊢
    cases hn : t.isNew <;> simp [ht, Int.add_mul] <;> omega

theorem delta_eq (trs : List Trigger) (col kind : String) (ss : Bool) (o n : String) :
    delta trs col kind ss o n = evalTerms (kindTerms trs col kind ss) o n := by
  unfold delta kindTerms
  induction (trs.filter (fires · kind ss)) with
  | nil => simp [evalTerms]
  | cons tr l ih => simp only [List.foldr_cons, List.flatMap_cons, evalTerms_append]; omega

theorem tracks_sound (trs : List Trigger) (col st : String) (h : Tracks trs col st = true) :
    (∀ n, delta trs col "insert" false "" n = ind (n == st)) ∧
    (∀ o, delta trs col "delete" false o "" = - ind (o == st)) ∧
    (∀ o n, delta trs col "update" true o n = ind (n == st) - ind (o == st)) ∧
    (∀ s, delta trs col "update" false s s = 0) := by
  unfold Tracks at h
  simp only [Bool.and_eq_true, beq_iff_eq, and_assoc] at h
  obtain ⟨ai, i1, i0, ad, d1, d0, au, u1, u0, an, n0⟩ := h
  refine ⟨?_, ?_, ?_, ?_⟩
  · intro n; rw [delta_eq, evalTerms_all _ st _ _ ai, i1, i0]; omega
  · intro o; rw [delta_eq, evalTerms_all _ st _ _ ad, d1, d0]; omega
  · intro o n; rw [delta_eq, evalTerms_all _ st _ _ au, u1, u0]; omega
  · intro s; rw [delta_eq, evalTerms_all _ st _ _ an, ← Int.add_mul, n0, Int.zero_mul]

theorem ind_count_cons (s st : String) (l : List String) :
    ((s :: l).count st : Int) = l.count st + ind (s == st) := by
  by_cases h : s = st <;> simp [ind, h]

theorem count_eraseIdx (l : List String) (i : Nat) (st : String) (h : i < l.length) :
    ((l.eraseIdx i).count st : Int) = l.count st - ind (l[i] == st) := by
  induction l generalizing i with
  | nil => simp at h
  | cons a l ih =>
    cases i with
    | zero => simp only [List.eraseIdx_cons_zero, List.getElem_cons_zero, ind_count_cons]; omega
    | succ i =>
      have hi : i < l.length := by simpa using h
      simp only [List.eraseIdx_cons_succ, List.getElem_cons_succ, ind_count_cons, ih i hi]; omega

theorem count_set (l : List String) (i : Nat) (s st : String) (h : i < l.length) :
    ((l.set i s).count st : Int) = l.count st - ind (l[i] == st) + ind (s == st) := by
  have := count_eraseIdx (l.set i s) i st (by rwa [List.length_set])
  rw [List.eraseIdx_set_eq, List.getElem_set_self, count_eraseIdx l i st h] at this
  omega

theorem step_tracks (trs : List Trigger) (col st : String) (h : Tracks trs col st = true)
    (rows rows' : List String) (c : Int) (e : Ev) (hc : c = rows.count st) (ha : applyEv rows e = some rows') :
    fireEv trs col rows c e = rows'.count st := by
  obtain ⟨hi, hd, hu, hn⟩ := tracks_sound trs col st h
  subst hc
  cases e with
  | insert s =>
    cases ha
    simp only [fireEv, hi, ind_count_cons]
  | delete i =>
    simp only [applyEv] at ha
    split at ha <;> cases ha
    rename_i hlt
    simp only [fireEv, hd, ← List.getElem_eq_getD (h := hlt), count_eraseIdx _ _ _ hlt]
    omega
  | update i ss s =>
    simp only [applyEv] at ha
    split at ha
    · rename_i hlt
      split at ha <;> cases ha
      rename_i hcond
      simp only [fireEv, ← List.getElem_eq_getD (h := hlt), count_set _ _ _ _ hlt]
      cases ss with
      | true => rw [hu]; omega
      | false =>
        -- a statement that does not assign `state` leaves the row's state as it was
        have hs : rows[i] = s := by simpa using hcond
        rw [hs, hn]; omega
    · cases ha

theorem counters_track (trs : List Trigger) (col st : String) (h : Tracks trs col st = true)
    (evs : List Ev) (rows : List String) (c : Int) (hc : c = rows.count st)
    (rows' : List String) (c' : Int) (hr : run trs col rows c evs = some (rows', c')) :
    c' = rows'.count st := by
  induction evs generalizing rows c with
  | nil => simp only [run, Option.some.injEq] at hr; obtain ⟨rfl, rfl⟩ := hr; exact hc
  | cons e es ih =>
    simp only [run] at hr
    split at hr
    · simp at hr
    · rename_i r1 ha
      exact ih r1 _ (step_tracks trs col st h rows r1 c e hc ha) hr

theorem code_triggers_track :
    Tracks Gen.triggers "queued" "queued" = true ∧ Tracks Gen.triggers "leased" "leased" = true := by decide +kernel

/-- the counters are initialised to the number of rows in exactly those states, and every trigger writes the counter table -/
theorem code_init_counts :
    Gen.counterInit = [("queued", "queued"), ("leased", "leased")] ∧
    Gen.triggers.all (fun t => t.target == Gen.counterTable && t.table == "queue_items") = true ∧
    Gen.triggers.all (fun t => t.sets.all (fun s => Gen.counterInit.any (·.1 == s.1))) = true := by decide +kernel

/-- a statement that assigns `state` always fires an update trigger, and nothing fires that `Ev` does not have -/
theorem code_trigger_events :
    Gen.triggers.all (fun t => t.event == "insert" || t.event == "delete" || t.event == "update") = true ∧
    (Gen.triggers.filter (fun t => t.event == "update")).all (fun t => t.ofCols == ["state"] || t.ofCols == []) = true := by decide +kernel

/-- `activeDepthCount` and `activeDepthCountTx` select the two columns into two variables in the same order and return their
    sum; the fallback for a database without the counter table counts the same two states -/
theorem code_depth_readers :
    Gen.counterReaders.length ≥ 1 ∧
    Gen.counterReaders.all (fun (_, cols, vars, sum, fb) =>
      cols == ["queued", "leased"] && vars.length == 2 && (sum == vars || sum == vars.reverse) &&
      (fb == ["queued", "leased"] || fb == ["leased", "queued"])) = true := by decide +kernel

/-- every INSERT on queue_items is a plain one: a conflicting id fails the statement (no `OR REPLACE`, which would delete the old
    row without firing the delete trigger; no `OR IGNORE` / `ON CONFLICT`, which would make the insert event conditional) -/
theorem code_inserts_plain :
    Gen.itemInserts.length ≥ 1 ∧ Gen.itemInserts.all (fun (_, clause) => clause == "") = true := by decide

def active (s : String) : Bool := s == "queued" || s == "leased"

theorem ind_active (s : String) : ind (active s) = ind (s == "queued") + ind (s == "leased") := by
  by_cases hq : s = "queued"
  · subst hq; rfl
  · simp [active, ind, hq]

theorem active_count (rows : List String) :
    ((rows.filter active).length : Int) = rows.count "queued" + rows.count "leased" := by
  induction rows with
  | nil => rfl
  | cons s rows ih =>
    have hf : (((s :: rows).filter active).length : Int) = (rows.filter active).length + ind (active s) := by
      cases h : active s <;> simp [h, ind]
    rw [hf, ih, ind_active, ind_count_cons, ind_count_cons]
    omega

/-- **C12, SQLite admission.** After any sequence of row events on a table whose counters were right to begin with (they are
    initialised from COUNT(*)), the value `activeDepthCountTx` computes — `queued + leased` — is the number of rows that are
    queued or leased. -/
theorem code_depth_is_active_count (evs : List Ev) (rows rows' : List String) (q l q' l' : Int)
    (hq : q = rows.count "queued") (hl : l = rows.count "leased")
    (rq : run Gen.triggers "queued" rows q evs = some (rows', q'))
    (rl : run Gen.triggers "leased" rows l evs = some (rows', l')) :
    q' + l' = (rows'.filter active).length := by
  rw [active_count, counters_track _ _ _ code_triggers_track.1 evs rows q hq rows' q' rq,
      counters_track _ _ _ code_triggers_track.2 evs rows l hl rows' l' rl]

theorem active_eq_model (ms : List Hk.Msg) :
    ((ms.map (fun m => m.st.toString)).filter active).length = Hk.countP Hk.isActive ms := by
  rw [List.filter_map, List.length_map, Hk.countP]
  congr 2
  funext m
  show active m.st.toString = (m.st == .queued || m.st == .leased)
  cases m.st <;> decide +kernel

example : run Gen.triggers "queued" [] 0
    [.insert "queued", .insert "queued", .update 1 true "leased", .delete 0, .update 0 true "canceled", .update 0 false "canceled"]
    = some (["canceled"], 0) := by decide +kernel

example : run Gen.triggers "leased" ["queued"] 0 [.update 0 true "leased", .insert "queued"] = some (["queued", "leased"], 1) := by decide +kernel

/-- an update trigger that forgets the OLD term does not track (the shape is not vacuous) -/
def brokenTriggers : List Trigger :=
  [{ name := "u", event := "update", ofCols := ["state"], table := "queue_items", target := "queue_counters",
     sets := [("queued", [{ sign := 1, isNew := true, st := "queued" }])] }]

example : Tracks brokenTriggers "queued" "queued" = false := by decide +kernel
example : run brokenTriggers "queued" ["queued"] 1 [.update 0 true "leased"] = some (["leased"], 1) := by decide +kernel

end Hk.Counters
