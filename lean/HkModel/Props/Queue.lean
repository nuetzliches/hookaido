import HkModel.Proofs.C02Model
import HkModel.Proofs.Trimmed
import HkModel.Proofs.C03Model
import HkModel.Proofs.C04Model
import HkModel.Proofs.C05Model
import HkModel.Proofs.C12Model
import HkModel.Proofs.C14Model
/-!
  Queue family — property theorems at the level of *runs* of the model: every record the model can ever
  produce along any finite operation sequence (any length, any ids, any configuration, any legal choice of
  the implementation's free picks) satisfies the property predicates of `Obs/Queue.lean`.

  The step-level theorems are in `Proofs/*Model.lean`; this file only lifts them by induction over the
  operation list and states the hypotheses once.
-/
namespace Hk
open Hk.Obs

structure TStep where
  now : Int
  op : Op
  ch : Choice

/-- Operations the implementation's API can express: `LeaseBatchStore` has no batch `extend`
    (the model's `leaseBatch` is generic in the lease kind only for uniformity), and dead messages are deleted by id only
    (`C02.disappearOK` knows no other cause). -/
def OpWF (_c : Cfg) (op : Op) : Prop :=
  (∀ d ls, op ≠ .leaseBatch (.extend d) ls) ∧ (∀ f, op ≠ .byFilter .deleteDead f) ∧ (∀ f, op ≠ .byFilter .requeueDead f)

def Monotone : Int → List TStep → Prop
  | _, [] => True
  | t, s :: rest => t ≤ s.now ∧ Monotone s.now rest

/-- the records an observer of the model writes along a history (stops at an illegal choice) -/
def run (c : Cfg) : Q → Hist → List TStep → List (Hist × Rec)
  | _, _, [] => []
  | q, h, s :: rest =>
    match step c s.now q s.op s.ch with
    | none => []
    | some (q', r) =>
      let rec_ := modelRec c s.now q s.op r q'
      (h, rec_) :: run c q' (C03.advance h rec_) rest

/-- **Every record of every run satisfies C02, C03, C04, C05, C12 and C14**, from any state satisfying the invariant
    (`ChWF`: the implementation's generated lease ids carry no surrounding whitespace). -/
theorem run_ok (c : Cfg) (hsweep : 0 ≤ c.sweep) :
    ∀ (tr : List TStep) (q : Q) (h : Hist) (t0 : Int),
      Inv q → Trimmed q → q.lastSweep ≤ t0 → 0 ≤ t0 → Monotone t0 tr → (∀ s ∈ tr, OpWF c s.op ∧ ChWF s.ch) →
      (∀ l ∈ h.issued, l ∈ q.issued) →
      ∀ hr ∈ run c q h tr,
        C02.stepOK' hr.2 = true ∧ C03.stepOK hr.1 hr.2 = true ∧ C04.stepOK' hr.2 = true ∧ C05.stepOK' hr.2 = true ∧
        C12.stepOK hr.2 = true ∧ C14.stepOK hr.2 = true := by
  intro tr
  induction tr with
  | nil => intro q h t0 _ _ _ _ _ _ _ hr hmem; simp [run] at hmem
  | cons s rest ih =>
    intro q h t0 hinv htrim hclock hpos hmono hwf hh hr hmem
    simp only [run] at hmem
    cases hstep : step c s.now q s.op s.ch with
    | none => simp [hstep] at hmem
    | some p =>
      obtain ⟨q', r⟩ := p
      simp only [hstep, List.mem_cons] at hmem
      have hs : t0 ≤ s.now := hmono.1
      have hwfs := (hwf s (by simp)).1
      have hchs := (hwf s (by simp)).2
      have hext : ∀ d ls, s.op = .leaseBatch (.extend d) ls → 0 ≤ d := fun d ls h => absurd h (hwfs.1 d ls)
      have h03 := P03.C03_model c s.now q q' s.op s.ch r h hinv hh hstep
      rcases hmem with rfl | hmem
      · refine ⟨?_, h03.1, ?_, ?_, ?_, ?_⟩
        · exact C02_model' c s.now q q' s.op s.ch r hinv (fun _ m hm _ => htrim m hm) hext
            (fun f h => absurd h (hwfs.2.1 f)) hstep
        · exact C04_model' c s.now q q' s.op s.ch r hinv (fun d ls h => absurd h (hwfs.1 d ls)) hstep
        · exact C05_model' c s.now q q' s.op s.ch r hinv (by omega) hsweep hstep
        · exact P12.C12_model c s.now q q' s.op s.ch r hinv hstep
        · exact P14.C14_model c s.now q q' s.op s.ch r hinv hstep
      · have hi := inv_step c s.now q q' s.op s.ch r hinv (by omega) (by omega) hext hstep
        have ht' := trimmed_step c s.now q q' s.op s.ch r htrim hchs hstep
        exact ih q' _ s.now hi.1 ht' hi.2 (by omega) hmono.2 (fun x hx => hwf x (by simp [hx])) h03.2 hr hmem

/-- the fold of `inv_reachable` from any accumulator -/
theorem inv_fold (c : Cfg) (tr : List TStep) : ∀ (acc : Option Q) (t0 : Int),
    (∀ q, acc = some q → Inv q ∧ q.lastSweep ≤ t0) → 0 ≤ t0 → Monotone t0 tr → (∀ s ∈ tr, OpWF c s.op) →
    ∀ q', (tr.foldl (fun (acc : Option Q) s => acc.bind (fun q => (step c s.now q s.op s.ch).map (·.1))) acc) = some q' →
    Inv q' := by
  induction tr with
  | nil => exact fun _ _ hacc _ _ _ q' h => (hacc q' h).1
  | cons s rest ih =>
    intro acc t0 hacc hpos hmono hwf q' h
    have hs : t0 ≤ s.now := hmono.1
    refine ih _ s.now (fun q1 h1 => ?_) (by omega) hmono.2 (fun x hx => hwf x (List.mem_cons_of_mem _ hx)) q' h
    obtain ⟨q, rfl, h1⟩ := Option.bind_eq_some_iff.1 h1
    obtain ⟨⟨q1, r⟩, hstep, rfl⟩ := Option.map_eq_some_iff.1 h1
    have hq := hacc q rfl
    exact inv_step c s.now q q1 s.op s.ch r hq.1 (by omega) (by omega)
      (fun d ls h => absurd h ((hwf s (List.mem_cons_self ..)).1 d ls)) hstep

theorem inv_reachable (c : Cfg) :
    ∀ (tr : List TStep) (q : Q) (t0 : Int), Inv q → q.lastSweep ≤ t0 → 0 ≤ t0 → Monotone t0 tr →
      (∀ s ∈ tr, OpWF c s.op) →
      ∀ q', (tr.foldl (fun (acc : Option Q) s => acc.bind (fun q => (step c s.now q s.op s.ch).map (·.1))) (some q)) = some q' →
      Inv q' :=
  fun tr q t0 hinv hclock => inv_fold c tr (some q) t0 fun _ e => Option.some.inj e ▸ ⟨hinv, hclock⟩

/-! The hypotheses of `run_ok` can be met, and the run below does not stop early. -/

def demoEnv (i : String) : Env := { id := i, route := "/r", target := "pull" }
def demoTrace : List TStep :=
  [ ⟨10, .enqueue (demoEnv "a"), {}⟩, ⟨11, .enqueue (demoEnv "b"), {}⟩,
    ⟨12, .dequeue "/r" "" 1 5, { picks := [("a", "L1")] }⟩,
    ⟨13, .lease (.nack 3) "L1", {}⟩,
    ⟨20, .dequeue "" "" 2 0, { picks := [("a", "L2"), ("b", "L3")] }⟩,
    ⟨21, .lease .ack "L2", {}⟩, ⟨22, .byIds .cancel ["b"], {}⟩ ]

example : (run { maxDepth := 2 } {} {} demoTrace).length = 7 := by decide
example : Monotone 0 demoTrace := by simp [Monotone, demoTrace]
example : ∀ s ∈ demoTrace, OpWF { maxDepth := 2 } s.op ∧ ChWF s.ch := by
  intro s hs
  simp only [demoTrace, List.mem_cons, List.mem_nil_iff, or_false] at hs
  rcases hs with rfl | rfl | rfl | rfl | rfl | rfl | rfl <;>
    refine ⟨⟨by intro d ls; simp, by intro f; simp, by intro f; simp⟩, ?_⟩ <;>
    intro p hp <;> simp at hp <;> (try rcases hp with rfl | rfl) <;> (try subst hp) <;> decide

end Hk
