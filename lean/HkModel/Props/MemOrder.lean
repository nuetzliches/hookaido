/-
  The memory store's scan list refines the queue model's free choice (C05: no stored message is hidden from `Dequeue`;
  C03: what the scan picks is a legal choice of the model; C13: the memory backend's order is one of the allowed ones).

  Two equations carry the file: `compactWith_eq_or` (a compaction is the identity or the filter "id is stored") and
  `scan_nil_eq` (a scan is `take n` of the duplicate-free list of the ready ids on the list).
-/
import HkModel.Model.MemOrder
import HkModel.Generated.MemOrderFacts
import HkModel.Proofs.Ops

namespace Hk.MemOrder

/-- resetting the list when nothing is stored is an instance of the second case -/
theorem compactWith_eq_or (minLen factor : Nat) (order live : List String) :
    compactWith minLen factor order live = order ∨
      compactWith minLen factor order live = order.filter (live.contains ·) := by
  unfold compactWith
  split
  · exact .inl rfl
  · split
    · rename_i h; exact .inr (by simp [List.isEmpty_iff.mp h])
    · split
      · exact .inl rfl
      · exact .inr rfl

theorem filter_compactWith (minLen factor : Nat) (order live : List String) (p : String → Bool)
    (h : ∀ id, p id = true → live.contains id = true) :
    (compactWith minLen factor order live).filter p = order.filter p := by
  rcases compactWith_eq_or minLen factor order live with e | e <;> rw [e]
  rw [List.filter_filter]
  refine List.filter_congr fun id _ => ?_
  cases hp : p id
  · rfl
  · simpa using h id hp

theorem compact_keeps_live (minLen factor : Nat) (order live : List String) :
    ∀ id ∈ live, id ∈ order → id ∈ compactWith minLen factor order live := by
  intro id hl ho
  rcases compactWith_eq_or minLen factor order live with e | e <;> rw [e]
  · exact ho
  · exact List.mem_filter.mpr ⟨ho, List.contains_iff_mem.mpr hl⟩

theorem compact_sublist (minLen factor : Nat) (order live : List String) :
    (compactWith minLen factor order live).Sublist order := by
  rcases compactWith_eq_or minLen factor order live with e | e <;> rw [e]
  · exact List.Sublist.refl _
  · exact List.filter_sublist

theorem compact_live_view (minLen factor : Nat) (order live : List String) :
    (compactWith minLen factor order live).filter (live.contains ·) = order.filter (live.contains ·) :=
  filter_compactWith minLen factor order live _ fun _ h => h

theorem scan_eq (rdy : String → Bool) (n : Nat) (l t : List String) :
    scan rdy n l t = t ++ ((l.filter fun a => rdy a && !t.contains a).eraseDups).take (n - t.length) := by
  induction l generalizing t with
  | nil => simp [scan]
  | cons a as ih =>
    rw [scan, List.filter_cons]
    split
    · rename_i h; simp [Nat.sub_eq_zero_of_le h]
    · split
      · have hp : ∀ b, (!b == a && (rdy b && !t.contains b)) = (rdy b && !(t ++ [a]).contains b) := by
          intro b
          simp only [List.contains_append, List.contains_cons, List.contains_nil, Bool.or_false, Bool.not_or,
            Bool.and_comm, Bool.and_left_comm]
        have hn : n - t.length = n - (t ++ [a]).length + 1 := by simp; omega
        simp only [ih, List.eraseDups_cons, List.filter_filter, hp, hn, List.take_succ_cons, List.append_assoc,
          List.singleton_append]
      · exact ih t

theorem scan_nil_eq (rdy : String → Bool) (n : Nat) (order : List String) :
    scan rdy n order [] = ((order.filter rdy).eraseDups).take n := by
  simp [scan_eq]

/-- **compaction is invisible to a scan** -/
theorem scan_compact_eq (rdy : String → Bool) (n minLen factor : Nat) (order live : List String)
    (h : ∀ id, rdy id = true → live.contains id = true) :
    scan rdy n (compactWith minLen factor order live) [] = scan rdy n order [] := by
  rw [scan_nil_eq, scan_nil_eq, filter_compactWith _ _ _ _ _ h]

theorem cover_step (order live live' added : List String) (compacts : Bool)
    (h : Cover order live) (hsub : ∀ id ∈ live', id ∈ live ∨ id ∈ added) :
    Cover (orderStep order added compacts live') live' := by
  have hbase : Cover (order ++ added) live' := fun id hid =>
    List.mem_append.mpr ((hsub id hid).imp_left (h id))
  unfold orderStep
  split
  · exact fun id hid => compact_keeps_live _ _ _ _ id hid (hbase id hid)
  · exact hbase

/-- an operation of a history, reduced to what it does to the list -/
structure OStep where
  added : List String
  compacts : Bool
  live' : List String

def runOrder : List String → List OStep → List String
  | order, [] => order
  | order, s :: ss => runOrder (orderStep order s.added s.compacts s.live') ss

def lastLive : List String → List OStep → List String
  | live, [] => live
  | _, s :: ss => lastLive s.live' ss

/-- What `cover_reachable` assumes of a history, to speak of `runOrder` (the list after it) and `lastLive` (the ids
    stored after it): the ids stored after a step were stored before it or are among its `added`.  An ASSUMPTION:
    no theorem here derives it from `Hk.step`; that tie is the driver's (`Drive/Queue.lean` replays `orderStep`
    and `scan` against the real list). -/
def WFrun : List String → List OStep → Prop
  | _, [] => True
  | live, s :: ss => (∀ id ∈ s.live', id ∈ live ∨ id ∈ s.added) ∧ WFrun s.live' ss

/-- **every history** keeps every stored id on the list, however often it was compacted in between -/
theorem cover_reachable (steps : List OStep) (order live : List String)
    (h : Cover order live) (hwf : WFrun live steps) :
    Cover (runOrder order steps) (lastLive live steps) := by
  induction steps generalizing order live with
  | nil => exact h
  | cons s ss ih => exact ih _ _ (cover_step order live s.live' s.added s.compacts h hwf.1) hwf.2

theorem scan_spec (rdy : String → Bool) (n : Nat) (order : List String) :
    (scan rdy n order []).Nodup ∧ (scan rdy n order []).length ≤ n ∧
    (∀ id ∈ scan rdy n order [], rdy id = true ∧ id ∈ order) ∧
    ((scan rdy n order []).length < n → ∀ id ∈ order, rdy id = true → id ∈ scan rdy n order []) := by
  rw [scan_nil_eq]
  refine ⟨(List.nodup_eraseDups _).sublist (List.take_sublist ..), List.length_take_le .., ?_, ?_⟩
  · intro id hid
    simpa [And.comm] using List.mem_of_mem_take hid
  · intro hlt id hid hr
    rw [List.take_of_length_le (by rw [List.length_take] at hlt; omega)]
    simp [hid, hr]

/-- FIFO by insertion -/
theorem scan_sublist (rdy : String → Bool) (n : Nat) (order : List String) :
    (scan rdy n order []).Sublist order := by
  rw [scan_nil_eq]
  exact (List.take_sublist ..).trans ((List.eraseDups_sublist _).trans List.filter_sublist)

theorem scan_length (rdy : String → Bool) (n : Nat) (order ids : List String) (hnd : ids.Nodup)
    (hr : ∀ id, rdy id = true ↔ id ∈ ids) (hc : Cover order ids) :
    (scan rdy n order []).length = min n ids.length := by
  rw [scan_nil_eq, List.length_take]
  congr 1
  apply List.Perm.length_eq
  rw [List.perm_ext_iff_of_nodup (List.nodup_eraseDups _) hnd]
  intro id
  simp only [List.mem_eraseDups, List.mem_filter, hr]
  exact ⟨And.right, fun h => ⟨hc id h, h⟩⟩

theorem readyId_iff (now : Int) (route target : String) (ms : List Msg) (id : String) :
    readyId now route target ms id = true ↔ id ∈ (ms.filter (ready now route target)).map (·.id) := by
  simp only [readyId, List.any_eq_true, Bool.and_eq_true, beq_iff_eq, List.mem_map, List.mem_filter]
  constructor
  · rintro ⟨m, hm, hid, hr⟩; exact ⟨m, ⟨hm, hr⟩, hid⟩
  · rintro ⟨m, ⟨hm, hr⟩, hid⟩; exact ⟨m, hm, hid, hr⟩

/-- **C05 on the memory backend**: the scan hands out exactly min(batch, number of ready messages) messages -/
theorem scan_count (now : Int) (route target : String) (batch : Int) (ms : List Msg) (order : List String)
    (hnd : (ms.map (·.id)).Nodup) (hc : Cover order (ms.map (·.id))) :
    (scan (readyId now route target ms) (effBatch batch) order []).length
      = min (effBatch batch) (ms.filter (ready now route target)).length := by
  have hsub : ((ms.filter (ready now route target)).map (·.id)).Sublist (ms.map (·.id)) := List.filter_sublist.map _
  rw [scan_length _ _ _ _ (hnd.sublist hsub) (readyId_iff now route target ms) fun id hid => hc id (hsub.subset hid),
    List.length_map]

/-- **refinement**: paired with fresh lease ids, the scan's picks are a legal choice of the queue model's dequeue -/
theorem scan_picks_legal (now : Int) (route target : String) (batch : Int) (q : Q) (order leases : List String)
    (hnd : (q.msgs.map (·.id)).Nodup) (hc : Cover order (q.msgs.map (·.id)))
    (hlen : leases.length = (scan (readyId now route target q.msgs) (effBatch batch) order []).length)
    (hl : leases.Nodup)
    (hfresh : ∀ l ∈ leases, l ≠ "" ∧ q.issued.contains l = false ∧ q.msgs.any (fun m => m.lease == l) = false) :
    legalPicks now route target batch q
      ((scan (readyId now route target q.msgs) (effBatch batch) order []).zip leases) = true := by
  obtain ⟨hnd', _, hmem, _⟩ := scan_spec (readyId now route target q.msgs) (effBatch batch) order
  rw [Hk.legalPicks_iff, List.map_fst_zip (Nat.le_of_eq hlen.symm), List.map_snd_zip (Nat.le_of_eq hlen),
    List.length_zip, hlen, Nat.min_self]
  refine ⟨scan_count now route target batch q.msgs order hnd hc, hnd', hl, ?_⟩
  rintro ⟨a, b⟩ hp
  obtain ⟨ha, hb⟩ := List.of_mem_zip hp
  obtain ⟨m, hm, hid⟩ := List.mem_map.mp ((readyId_iff now route target q.msgs a).mp (hmem a ha).1)
  obtain ⟨hm, hr⟩ := List.mem_filter.mp hm
  simpa using (⟨⟨m, hm, hr, hid⟩, hfresh b hb⟩ : (∃ m ∈ q.msgs, _) ∧ _)

/-- `s.order` is appended to by the two enqueue paths, rewritten only by `compactOrderLocked` (reset when nothing is stored,
    else the filtered copy), read by the dequeue scan, the eviction scan and the compaction; `Dequeue` compacts at each of
    its three exits of a pass; the thresholds and the keep-condition are the model's -/
theorem code_order_sites :
    Gen.MemOrder.orderWrites = [("Enqueue", "append-id"), ("EnqueueBatch", "append-id"),
                                ("compactOrderLocked", "reset"), ("compactOrderLocked", "set:out")] ∧
    Gen.MemOrder.orderScans = [("oldestQueuedIDsLocked", "range"), ("Dequeue", "range"), ("compactOrderLocked", "range")] ∧
    Gen.MemOrder.compactCalls = [("Dequeue", "3")] ∧
    Gen.MemOrder.compactMin = compactMin ∧ Gen.MemOrder.compactFactor = compactFactor ∧
    Gen.MemOrder.compactKeeps = "s.items[id] != nil" := by decide +kernel

example : scan (fun id => id == "a" || id == "c") 2 ["a", "b", "a", "c", "c"] [] = ["a", "c"] := by decide +kernel
example : compactWith 4 1 ["a", "x", "b", "x", "a"] ["a", "b"] = ["a", "b", "a"] := by decide +kernel
/-- a compaction that forgets non-queued messages (seeded C05-m3) loses coverage -/
example : ¬ Cover (["a", "b"].filter (· == "a")) ["a", "b"] := by
  intro h; have := h "b" (by simp); simp at this

end Hk.MemOrder
