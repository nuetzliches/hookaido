import HkModel.Model.IngressAuth
import HkModel.Proofs.Scan
/-! C08 — ingress authentication is sound and fails closed; C09 — replay protection. -/
namespace Hk.IngressAuth
open Hk.Egress (trimWS)

variable (mac : Bytes → Bytes → Bytes)

theorem timeOK_some (cfg : HmacCfg) (now : Int) (rq : HReq) (t : Int) (h : timeOK cfg now rq = some t) :
    (trimWS rq.sig ≠ "" ∧ trimWS rq.ts ≠ "" ∧ trimWS rq.nonce ≠ "") ∧
    (∃ n, parseInt64 (trimWS rq.ts) = some n ∧ t = n * 1000000000) ∧
    (cfg.tol > 0 → -cfg.tol ≤ now - t ∧ now - t ≤ cfg.tol) := by
  simp only [timeOK] at h
  split at h
  · cases h
  split at h
  · cases h
  split at h
  · cases h
  rename_i hdr _ n hp hc
  cases h
  simp only [Bool.or_eq_true, beq_iff_eq, not_or, and_assoc] at hdr
  simp only [Bool.and_eq_true, decide_eq_true_eq, Bool.or_eq_true, not_and] at hc
  exact ⟨hdr, ⟨n, hp, rfl⟩, fun hpos => by have := hc hpos; omega⟩

theorem sigOK_iff (cfg : HmacCfg) (t : Int) (rq : HReq) :
    sigOK mac cfg t rq = true ↔
      ∃ g s, Sha256.fromHex (trimWS rq.sig) = some g ∧ g ≠ [] ∧ s ∈ validSecrets cfg t ∧ s ≠ [] ∧
        mac s (stringToSign (trimWS rq.ts) rq.method rq.path rq.body) = g := by
  unfold sigOK
  cases Sha256.fromHex (trimWS rq.sig) <;> simp

theorem verify_eq (cfg : HmacCfg) (now : Int) (cache : Cache) (rq : HReq) :
    verify mac cfg now cache rq = match timeOK cfg now rq with
      | none => (cache, false)
      | some t => ((seenOnce cache now (trimWS rq.nonce) (t + cfg.tol)).1,
          (seenOnce cache now (trimWS rq.nonce) (t + cfg.tol)).2 && sigOK mac cfg t rq) := by
  unfold verify
  cases timeOK cfg now rq with
  | none => rfl
  | some t =>
    dsimp only
    obtain ⟨c', fresh⟩ := seenOnce cache now (trimWS rq.nonce) (t + cfg.tol)
    cases fresh <;> simp

/-- **HMAC acceptance is sound**, for every keyed function `mac`; the secret is one valid *at the signed timestamp*. -/
theorem hmac_accept_sound (cfg : HmacCfg) (now : Int) (cache : Cache) (rq : HReq)
    (h : (verify mac cfg now cache rq).2 = true) :
    trimWS rq.sig ≠ "" ∧ trimWS rq.ts ≠ "" ∧ trimWS rq.nonce ≠ "" ∧
    ∃ n, parseInt64 (trimWS rq.ts) = some n ∧
      (cfg.tol > 0 → -cfg.tol ≤ now - n * 1000000000 ∧ now - n * 1000000000 ≤ cfg.tol) ∧
      (seenOnce cache now (trimWS rq.nonce) (n * 1000000000 + cfg.tol)).2 = true ∧
      ∃ g s, Sha256.fromHex (trimWS rq.sig) = some g ∧ g ≠ [] ∧ s ∈ validSecrets cfg (n * 1000000000) ∧ s ≠ [] ∧
        mac s (stringToSign (trimWS rq.ts) rq.method rq.path rq.body) = g := by
  rw [verify_eq] at h
  split at h
  · cases h
  · rename_i t ht
    obtain ⟨⟨h1, h2, h3⟩, ⟨n, hp, rfl⟩, hwin⟩ := timeOK_some cfg now rq t ht
    rw [Bool.and_eq_true, sigOK_iff] at h
    exact ⟨h1, h2, h3, n, hp, hwin, h⟩

theorem hmac_reject_missing_header (cfg : HmacCfg) (now : Int) (cache : Cache) (rq : HReq)
    (h : trimWS rq.sig = "" ∨ trimWS rq.ts = "" ∨ trimWS rq.nonce = "") :
    (verify mac cfg now cache rq).2 = false := by
  refine Bool.eq_false_iff.mpr fun hv => ?_
  obtain ⟨h1, h2, h3, _⟩ := hmac_accept_sound mac cfg now cache rq hv
  exact h.elim h1 (·.elim h2 h3)

theorem hmac_reject_outside_tolerance (cfg : HmacCfg) (now : Int) (cache : Cache) (rq : HReq) (n : Int)
    (hp : parseInt64 (trimWS rq.ts) = some n) (htol : cfg.tol > 0)
    (hout : now - n * 1000000000 < -cfg.tol ∨ cfg.tol < now - n * 1000000000) :
    (verify mac cfg now cache rq).2 = false := by
  refine Bool.eq_false_iff.mpr fun hv => ?_
  obtain ⟨_, _, _, n', hp', hb, _⟩ := hmac_accept_sound mac cfg now cache rq hv
  cases hp.symm.trans hp'
  have := hb htol; omega

theorem hmac_reject_out_of_window_secret (cfg : HmacCfg) (now : Int) (cache : Cache) (rq : HReq) (n : Int)
    (hp : parseInt64 (trimWS rq.ts) = some n)
    (hnone : ∀ s ∈ validSecrets cfg (n * 1000000000), s ≠ [] →
      some (mac s (stringToSign (trimWS rq.ts) rq.method rq.path rq.body)) ≠ Sha256.fromHex (trimWS rq.sig)) :
    (verify mac cfg now cache rq).2 = false := by
  refine Bool.eq_false_iff.mpr fun hv => ?_
  obtain ⟨_, _, _, n', hp', _, _, g, s, hg, _, hs, hsne, hm⟩ := hmac_accept_sound mac cfg now cache rq hv
  cases hp.symm.trans hp'
  exact hnone s hs hsne (by rw [hg, hm])

/-- inbound verification accepts exactly the versions valid at the signed timestamp (C17, inbound half) -/
theorem validSecrets_versions (cfg : HmacCfg) (t : Int) (s : Bytes) (hv : cfg.versions ≠ []) :
    s ∈ validSecrets cfg t ↔ (∃ v ∈ cfg.versions, v.validAt t = true ∧ v.value = s) ∨ s ∈ cfg.direct := by
  unfold validSecrets
  rw [if_neg (by simpa using hv)]
  simp only [List.mem_append, List.mem_map, List.mem_filter, and_assoc]

theorem window_boundaries (v : Version) (u : Int) (hu : v.until_ = some u) (hlt : v.from_ < u) :
    v.validAt v.from_ = true ∧ v.validAt u = false ∧ v.validAt (v.from_ - 1) = false ∧ v.validAt (u - 1) = true := by
  simp only [Version.validAt, hu, Bool.and_eq_true, decide_eq_true_eq, Bool.and_eq_false_iff, decide_eq_false_iff_not]
  omega

theorem basic_sound (users : List (String × String)) (cred) (h : basicVerify users cred = true) :
    ∃ u p, cred = some (u, p) ∧ (u, p) ∈ users := by
  unfold basicVerify at h
  split at h
  · cases h
  · rename_i u p
    split at h
    · rename_i u' want hf
      have hu : u' = u := by simpa using List.find?_some hf
      rw [beq_iff_eq] at h
      exact ⟨u, p, rfl, h ▸ hu ▸ List.mem_of_find?_eq_some hf⟩
    · cases h

theorem forward_table (o : FwdOutcome) :
    forwardDecide o = match o with
      | .status n => if 200 ≤ n ∧ n < 300 then 0 else if n = 401 ∨ n = 403 then n else 503
      | .failed => 503 := by
  cases o with
  | failed => rfl
  | status n =>
    simp only [forwardDecide, Bool.and_eq_true, decide_eq_true_eq, Bool.or_eq_true, beq_iff_eq]

theorem forward_allow_iff_2xx (o : FwdOutcome) : forwardDecide o = 0 ↔ ∃ n, o = .status n ∧ 200 ≤ n ∧ n < 300 := by
  rw [forward_table]
  cases o with
  | failed => simp
  | status n =>
    simp only [FwdOutcome.status.injEq]
    split
    · simp [*]
    · split <;> omega

theorem fwdStatus_values (i : FlowIn) :
    fwdStatus i = 0 ∨ fwdStatus i = 401 ∨ fwdStatus i = 403 ∨ fwdStatus i = 503 := by
  unfold fwdStatus
  cases i.forward with
  | none => exact .inl rfl
  | some o =>
    dsimp only
    rw [forward_table]
    cases o with
    | failed => simp
    | status n =>
      dsimp only
      split
      · exact .inl rfl
      · split <;> omega

/-- The handler is a chain of gates. A request that some gate refuses is answered by that gate, never with 202, and
    nothing is enqueued; a request that passes every gate reaches the store, which answers 202 with one message per
    target, or 503 with the messages stored before the first refused enqueue. -/
theorem flow_cases {P : Nat × Nat → Prop} (i : FlowIn) (refused : ∀ st, st ≠ 202 → P (st, 0))
    (stored : i.routed = true ∧ i.rateOK = true ∧ i.pressureOK = true ∧ i.basic ≠ some false ∧ i.bodyOK = true ∧
      fwdStatus i = 0 ∧ i.hmac ≠ some false ∧ i.headersOK = true →
      P (match failIdx i with | some k => (503, k) | none => (202, i.targets))) :
    P (flow i) :=
  Scan.gate (refused _ (by split <;> decide)) fun h1 =>
  Scan.gate (refused _ (by decide)) fun h2 =>
  Scan.gate (refused _ (by decide)) fun h3 =>
  Scan.gate (refused _ (by decide)) fun h4 =>
  Scan.gate (refused _ (by decide)) fun h5 =>
  Scan.gate (refused _ (by have := fwdStatus_values i; omega)) fun h6 =>
  Scan.gate (refused _ (by decide)) fun h7 =>
  Scan.gate (refused _ (by decide)) fun h8 =>
  stored ⟨by simpa using h1, by simpa using h2, by simpa using h3, by simpa using h4, by simpa using h5,
    by simpa using h6, by simpa using h7, by simpa using h8⟩

/-- **Any authentication failure precedes the enqueue**: 401 / 403 / 413 / 429 / 404 / 405 leave the queue
    untouched (503 keeps only the copies stored for earlier targets of a fan-out; see `fwd_fail_no_enqueue`). -/
theorem deny_precedes_enqueue (i : FlowIn) (h : (flow i).1 ≠ 202 ∧ (flow i).1 ≠ 503) : (flow i).2 = 0 := by
  refine flow_cases (P := fun r => r.1 ≠ 202 ∧ r.1 ≠ 503 → r.2 = 0) i (fun _ _ _ => rfl) (fun _ h => ?_) h
  split at h <;> simp at h

theorem fwd_fail_no_enqueue (i : FlowIn) (hpre : i.routed = true ∧ i.rateOK = true ∧ i.pressureOK = true ∧
    i.basic ≠ some false ∧ i.bodyOK = true) (hf : fwdStatus i ≠ 0) : flow i = (fwdStatus i, 0) := by
  obtain ⟨h1, h2, h3, h4, h5⟩ := hpre
  simp [flow, h1, h2, h3, h4, h5, hf]

/-- **Declared authentication is enforced**: a 202 means every authenticator the route declares accepted. -/
theorem declared_auth_enforced (i : FlowIn) (h : (flow i).1 = 202) :
    i.routed = true ∧ i.basic ≠ some false ∧ i.hmac ≠ some false ∧ fwdStatus i = 0 ∧
    i.bodyOK = true ∧ i.headersOK = true ∧ (flow i).2 = i.targets := by
  refine flow_cases (P := fun r => r.1 = 202 → _ ∧ _ ∧ _ ∧ _ ∧ _ ∧ _ ∧ r.2 = i.targets) i
    (fun st hst h => absurd h hst) (fun ⟨h1, _, _, h4, h5, h6, h7, h8⟩ h => ⟨h1, h4, h7, h6, h5, h8, ?_⟩) h
  split at h
  · simp at h
  · rfl

/-! ## C09 — replay protection -/

/-- "live" includes the instant `now = expiry` (`pinned_boundary_replay_accepts`) -/
theorem seenOnce_seen_iff (cache : Cache) (now : Int) (nonce : String) (exp : Int) :
    (seenOnce cache now nonce exp).2 = false ↔ ∃ e ∈ cache, e.1 = nonce ∧ now ≤ e.2 := by
  have : (∃ e ∈ cache, e.1 = nonce ∧ now ≤ e.2) ↔
      (cache.filter (fun e => decide (now ≤ e.2))).any (·.1 == nonce) = true := by
    simp [and_comm]
  simp only [seenOnce]
  split <;> simp [*]

theorem mem_seenOnce (cache : Cache) (now : Int) (nonce : String) (exp : Int) (e : String × Int) :
    e ∈ (seenOnce cache now nonce exp).1 ↔
      e ∈ cache ∧ now ≤ e.2 ∨ (seenOnce cache now nonce exp).2 = true ∧ e = (nonce, exp) := by
  simp only [seenOnce]
  split <;> simp [or_comm]

theorem seenOnce_records (cache : Cache) (now : Int) (nonce : String) (exp : Int) (hlive : now ≤ exp) :
    ∃ e ∈ (seenOnce cache now nonce exp).1, e.1 = nonce ∧ now ≤ e.2 := by
  simp only [mem_seenOnce]
  cases h : (seenOnce cache now nonce exp).2 with
  | true => exact ⟨(nonce, exp), .inr ⟨rfl, rfl⟩, rfl, hlive⟩
  | false =>
    obtain ⟨e, he, hn, hl⟩ := (seenOnce_seen_iff ..).mp h
    exact ⟨e, .inl ⟨he, hl⟩, hn, hl⟩

theorem seenOnce_rejects_live (cache : Cache) (now : Int) (nonce : String) (exp : Int)
    (h : ∃ e ∈ cache, e.1 = nonce ∧ now ≤ e.2) : (seenOnce cache now nonce exp).2 = false :=
  (seenOnce_seen_iff ..).mpr h

theorem seenOnce_keeps_live (cache : Cache) (now : Int) (nonce : String) (exp : Int) (e : String × Int)
    (he : e ∈ cache) (hl : now ≤ e.2) : e ∈ (seenOnce cache now nonce exp).1 :=
  (mem_seenOnce ..).mpr (.inl ⟨he, hl⟩)

/-- one event on a route's authenticator: a request arriving at `now`. The nonce cache is shared across configuration
    reloads, so a reload that keeps the tolerance is no event; those that change it are in `Model/IngressReload.lean`. -/
structure Ev where
  now : Int
  rq : HReq

def runVerify (mac : Bytes → Bytes → Bytes) (cfg : HmacCfg) : Cache → List Ev → List (Ev × Bool)
  | _, [] => []
  | c, e :: rest => let (c', ok) := verify mac cfg e.now c e.rq; (e, ok) :: runVerify mac cfg c' rest

def MonoEv : Int → List Ev → Prop
  | _, [] => True
  | t, e :: rest => t ≤ e.now ∧ MonoEv e.now rest

theorem runVerify_cons (cfg : HmacCfg) (c : Cache) (e : Ev) (rest : List Ev) :
    runVerify mac cfg c (e :: rest) =
      (e, (verify mac cfg e.now c e.rq).2) :: runVerify mac cfg (verify mac cfg e.now c e.rq).1 rest := by
  rw [runVerify]

theorem verify_keeps_live (cfg : HmacCfg) (now : Int) (cache : Cache) (rq : HReq) (e : String × Int)
    (he : e ∈ cache) (hl : now ≤ e.2) : e ∈ (verify mac cfg now cache rq).1 := by
  rw [verify_eq]
  split
  · exact he
  · exact seenOnce_keeps_live cache now _ _ e he hl

theorem verify_rejects_live (cfg : HmacCfg) (now : Int) (cache : Cache) (rq : HReq)
    (h : ∃ e ∈ cache, e.1 = trimWS rq.nonce ∧ now ≤ e.2) : (verify mac cfg now cache rq).2 = false := by
  rw [verify_eq]
  split
  · rfl
  · rw [seenOnce_rejects_live cache now _ _ h, Bool.false_and]

/-- The invariant, for a nonce and an instant `exp`: until `exp` has passed, the cache holds an entry for the nonce that
    expires no earlier than `exp`. -/
theorem runVerify_rejects_live (cfg : HmacCfg) (nonce : String) (exp : Int) :
    ∀ (evs : List Ev) (cache : Cache) (t0 : Int), MonoEv t0 evs →
      (t0 ≤ exp → ∃ e ∈ cache, e.1 = nonce ∧ exp ≤ e.2) →
      ∀ p ∈ runVerify mac cfg cache evs, trimWS p.1.rq.nonce = nonce → p.1.now ≤ exp → p.2 = false := by
  intro evs
  induction evs with
  | nil => intro _ _ _ _ p hp; cases hp
  | cons e rest ih =>
    intro cache t0 hmono hc p hp hn hle
    rw [runVerify_cons, List.mem_cons] at hp
    rcases hp with rfl | hp
    · -- reduce `(e, _).2` first: unifying it with `(verify ..).2` as it stands compares the pair with `verify ..`
      -- and unfolds the verifier down to its string functions
      dsimp only at hn hle ⊢
      obtain ⟨en, hen, hen1, hen2⟩ := hc (Int.le_trans hmono.1 hle)
      exact verify_rejects_live mac cfg e.now cache e.rq ⟨en, hen, hen1.trans hn.symm, Int.le_trans hle hen2⟩
    · refine ih _ e.now hmono.2 (fun hlive => ?_) p hp hn hle
      obtain ⟨en, hen, hen1, hen2⟩ := hc (Int.le_trans hmono.1 hlive)
      exact ⟨en, verify_keeps_live mac cfg e.now cache e.rq en hen (Int.le_trans hlive hen2), hen1, hen2⟩

/-- **A nonce is honoured at most once while its timestamp passes the tolerance check** (`exp = t + tol`), whatever
    happens in between. Stated on the cache entry that acceptance leaves (`accepted_is_recorded`). -/
theorem replay_rejected_while_live (cfg : HmacCfg) (htol : 0 < cfg.tol) :
    ∀ (evs : List Ev) (cache : Cache) (t0 : Int) (nonce : String) (exp : Int),
      MonoEv t0 evs → (∃ e ∈ cache, e.1 = nonce ∧ e.2 = exp) →
      ∀ p ∈ runVerify mac cfg cache evs, trimWS p.1.rq.nonce = nonce → p.1.now ≤ exp → p.2 = false := by
  intro evs cache t0 nonce exp hmono ⟨e, he, h1, h2⟩
  exact runVerify_rejects_live mac cfg nonce exp evs cache t0 hmono fun _ => ⟨e, he, h1, Int.le_of_eq h2.symm⟩

theorem accepted_is_recorded (cfg : HmacCfg) (now : Int) (cache : Cache) (rq : HReq) (htol : 0 < cfg.tol)
    (h : (verify mac cfg now cache rq).2 = true) :
    ∃ e ∈ (verify mac cfg now cache rq).1, e.1 = trimWS rq.nonce ∧ now ≤ e.2 := by
  rw [verify_eq] at h ⊢
  split at h
  · cases h
  · rename_i t ht
    have := (timeOK_some cfg now rq t ht).2.2 htol
    exact seenOnce_records cache now _ _ (by omega)

/-- finding 8: with `now < expiry` as the liveness test, a replay at the boundary instant is accepted -/
theorem pinned_boundary_replay_accepts :
    (seenOncePinned [("n1", 2010)] 2010 "n1" 2010).2 = true ∧ (seenOnce [("n1", 2010)] 2010 "n1" 2010).2 = false := by
  decide

example : parseInt64 "1700000000" = some 1700000000 ∧ parseInt64 "+5" = some 5 ∧ parseInt64 "1_0" = none ∧
    parseInt64 "" = none ∧ parseInt64 "9223372036854775808" = none := by decide +kernel
example : flow { routed := true, hmac := some true, targets := 2 } = (202, 2) ∧
    flow { routed := true, hmac := some false, targets := 2 } = (401, 0) ∧
    flow { routed := true, forward := some (.status 403) } = (403, 0) ∧
    flow { routed := true, forward := some (.status 302) } = (503, 0) ∧
    flow { routed := true, targets := 3, storeFailsAt := some 1 } = (503, 1) := by decide

end Hk.IngressAuth
