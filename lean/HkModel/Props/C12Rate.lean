import HkModel.Model.RateLimit
import HkModel.Model.IngressAuth
import HkModel.Proofs.Scan
/-! C12 — rate limiter and size limits. -/
namespace Hk.RateLimit

theorem allow_last (p : Params) (b : Bucket) (t : Int) : (allow p b t).1.last = max b.last t := by
  unfold allow
  dsimp only
  split <;> split <;> dsimp only <;> omega

theorem allow_step (p : Params) (b : Bucket) (t : Int) (hb0 : 0 ≤ b.tokens) (hbc : b.tokens ≤ p.cap) (hs : 0 < p.scale) :
    let r := allow p b t
    0 ≤ r.1.tokens ∧ r.1.tokens ≤ p.cap ∧
    r.1.tokens + (if r.2 then p.scale else 0) ≤ b.tokens + (r.1.last - b.last) * p.num := by
  unfold allow
  dsimp only
  -- refill, then spend
  generalize hb1 : (if t > b.last then _ else b) = b1
  have h1 : 0 ≤ b1.tokens ∧ b1.tokens ≤ p.cap ∧ b1.tokens ≤ b.tokens + (b1.last - b.last) * p.num := by
    subst hb1
    split
    · have := Int.mul_nonneg (a := t - b.last) (b := p.num) (by omega) (Int.natCast_nonneg _)
      dsimp only; omega
    · rw [Int.sub_self, Int.zero_mul]; omega
  split <;> simp only [Bool.false_eq_true, if_false] <;> omega

theorem run_cons (p : Params) (b : Bucket) (t : Int) (ts : List Int) :
    run p b (t :: ts) = ((run p (allow p b t).1 ts).1, (allow p b t).2 :: (run p (allow p b t).1 ts).2) := rfl

theorem admitted_cons_mul (a : Bool) (as : List Bool) (S : Int) :
    (admitted (a :: as) : Int) * S = (if a then S else 0) + admitted as * S := by
  cases a <;> simp [admitted, Int.add_mul, Int.add_comm]

/-- **Window bound.** Over any stretch of arrivals (any timestamps, in any order), the number admitted is at most
    `burst + rps × (time the bucket's clock moved forward)`; stated scaled by `S = den·10⁹`:
    `admitted·S ≤ tokens_before + num·(last_after − last_before) ≤ burst·S + num·Δ`. -/
theorem window_bound (p : Params) (hs : 0 < p.scale) :
    ∀ (ts : List Int) (b : Bucket), 0 ≤ b.tokens → b.tokens ≤ p.cap →
      let r := run p b ts
      0 ≤ r.1.tokens ∧ r.1.tokens ≤ p.cap ∧ b.last ≤ r.1.last ∧
      (admitted r.2 : Int) * p.scale + r.1.tokens ≤ b.tokens + (r.1.last - b.last) * p.num := by
  intro ts
  induction ts with
  | nil => intro b h0 hc; simp [run, admitted]; exact ⟨h0, hc⟩
  | cons t rest ih =>
    intro b h0 hc
    have ⟨s0, s1, s2⟩ := allow_step p b t h0 hc hs
    have hl := allow_last p b t
    have ⟨r0, r1, r2, r3⟩ := ih _ s0 s1
    rw [run_cons]
    dsimp only
    refine ⟨r0, r1, by omega, ?_⟩
    -- the clock differences multiplied out: the bound telescopes over the step
    rw [admitted_cons_mul]
    simp only [Int.sub_mul] at s2 r3 ⊢
    omega

theorem bucket_window_bound (p : Params) (hs : 0 < p.scale) (ts : List Int) (b : Bucket)
    (h0 : 0 ≤ b.tokens) (hc : b.tokens ≤ p.cap) :
    (admitted (run p b ts).2 : Int) * p.scale ≤ p.cap + ((run p b ts).1.last - b.last) * p.num := by
  have ⟨h1, _, _, h4⟩ := window_bound p hs ts b h0 hc
  omega

theorem last_le_max (p : Params) : ∀ (ts : List Int) (b : Bucket) (m : Int), b.last ≤ m → (∀ t ∈ ts, t ≤ m) →
    (run p b ts).1.last ≤ m := by
  intro ts
  induction ts with
  | nil => intro b m h _; exact h
  | cons t rest ih =>
    intro b m h hall
    have := hall t List.mem_cons_self
    rw [run_cons]
    exact ih (allow p b t).1 m (by rw [allow_last]; omega) fun x hx => hall x (List.mem_cons_of_mem _ hx)

/-- over any window of arrivals with timestamps in `[t₀, t₁]` (bucket clock at `t₀` or later at its start),
    at most `burst + rps·(t₁ − t₀)` requests are admitted -/
theorem admitted_le_burst_plus_rate (p : Params) (hs : 0 < p.scale) (ts : List Int) (b : Bucket) (t1 : Int)
    (h0 : 0 ≤ b.tokens) (hc : b.tokens ≤ p.cap) (hlast : b.last ≤ t1) (hall : ∀ t ∈ ts, t ≤ t1) :
    (admitted (run p b ts).2 : Int) * p.scale ≤ p.cap + (t1 - b.last) * p.num := by
  have h1 := bucket_window_bound p hs ts b h0 hc
  have h2 := Int.mul_le_mul_of_nonneg_right (c := p.num)
    (Int.sub_le_sub_right (last_le_max p ts b t1 hlast hall) b.last) (Int.natCast_nonneg _)
  omega

open Hk.IngressAuth in
/-- a body over `max_body` or stored headers over `max_headers` answer 413 and enqueue nothing -/
theorem size_limits (i : FlowIn) (hr : i.routed = true) (hrate : i.rateOK = true) (hp : i.pressureOK = true)
    (hb : i.basic ≠ some false) :
    (i.bodyOK = false → flow i = (413, 0)) ∧
    (i.bodyOK = true → fwdStatus i = 0 → i.hmac ≠ some false → i.headersOK = false → flow i = (413, 0)) := by
  have hb' : (i.basic == some false) = false := beq_eq_false_iff_ne.mpr hb
  constructor
  · intro h; simp [flow, hr, hrate, hp, hb', h]
  · intro h1 h2 h3 h4
    have h3' : (i.hmac == some false) = false := beq_eq_false_iff_ne.mpr h3
    simp [flow, hr, hrate, hp, hb', h2, h3', h4]

open Hk.IngressAuth in
/-- rate-limited requests answer 429 and enqueue nothing; a fan-out refused part-way keeps exactly the copies of
    the earlier targets -/
theorem rate_limited_and_fanout (i : FlowIn) (hr : i.routed = true) :
    (i.rateOK = false → flow i = (429, 0)) ∧
    (∀ k, (flow i).1 = 503 → failIdx i = some k → fwdStatus i = 0 → i.pressureOK = true → (flow i).2 = k) := by
  constructor
  · intro h; simp [flow, hr, h]
  · intro k h503 hk hf hp
    simp only [flow, hr, hp, hf, hk, Bool.not_true, Bool.false_eq_true, if_false, bne_self_eq_false] at h503 ⊢
    revert h503
    -- five gates stand before the store (429, 401, 413, 401, 413); none of them answers 503
    iterate 5 refine Scan.gate (P := fun r : Nat × Nat => r.1 = 503 → r.2 = k) (fun h => absurd h (by decide)) fun _ => ?_
    exact fun _ => rfl

example : (run { num := 2, den := 1, burst := 3 } (init { num := 2, den := 1, burst := 3 } 0)
    [0, 0, 0, 0, 500000000, 500000000, 250000000, 1000000000]).2 = [true, true, true, false, true, false, false, true] := by
  decide

end Hk.RateLimit
