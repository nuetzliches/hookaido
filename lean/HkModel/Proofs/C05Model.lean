import HkModel.Proofs.InvStep
/-!
  C05 (at-least-once visibility) holds of every step of the queue model.

  A dequeue prunes, sweeps and then leases `min(batch, ready)` distinct ready messages. What the predicate
  must see offered is ready after that housekeeping, and what is ready then may be offered; the five
  conditions on the number and identity of the picks are a counting fact about duplicate-free id lists
  (`picks_between`). A successful nack is read off `leaseOne_cases`.
-/
namespace Hk
open Hk.Obs

namespace P05

theorem subset_of_nodup_of_length_le {α : Type} {l₁ l₂ : List α} (hnd : l₁.Nodup) (hsub : l₁ ⊆ l₂)
    (hlen : l₂.length ≤ l₁.length) : l₂ ⊆ l₁ := fun y hy => Classical.byContradiction fun hny => by
  have := (List.nodup_cons.2 ⟨hny, hnd⟩).length_le_of_subset (List.cons_subset.2 ⟨hy, hsub⟩)
  rw [List.length_cons] at this
  omega

/-- `P`, a choice of `min b |R|` distinct elements of `R`, seen from a part `M` of `R` and a superset `Y` -/
theorem picks_between {α : Type} {M R Y P : List α} {b : Nat} (hM : M.Nodup) (hR : R.Nodup) (hP : P.Nodup)
    (hMR : M ⊆ R) (hRY : R ⊆ Y) (hPR : P ⊆ R) (hlen : P.length = min b R.length) :
    P.length ≤ b ∧ min b M.length ≤ P.length ∧ P.length ≤ min b Y.length ∧ P ⊆ Y ∧ (P.length = b ∨ M ⊆ P) := by
  have h1 := hM.length_le_of_subset hMR
  have h2 := hR.length_le_of_subset hRY
  refine ⟨by omega, by omega, by omega, fun _ h => hRY (hPR h), ?_⟩
  by_cases hb : P.length = b
  · exact .inl hb
  · exact .inr fun _ h => subset_of_nodup_of_length_le hP hPR (by omega) (hMR h)

/-- the dequeue clause of `C05.stepOK` for any lists `must`, `may` between which the ready ids `R` lie -/
theorem offered_ok {must may : List Msg} {R : List String} {ps : List (String × String)} {b : Nat}
    (hM : (must.map (·.id)).Nodup) (hR : R.Nodup) (hP : (ps.map (·.1)).Nodup)
    (hMR : ∀ m ∈ must, m.id ∈ R) (hRY : ∀ i ∈ R, ∃ m ∈ may, m.id = i) (hPR : ∀ p ∈ ps, p.1 ∈ R)
    (hlen : ps.length = min b R.length) :
    (decide (ps.length ≤ b) && decide (min b must.length ≤ ps.length) && decide (ps.length ≤ min b may.length) &&
      ps.all (fun p => may.any (·.id == p.1)) &&
      (ps.length == b || must.all (fun m => ps.any (·.1 == m.id)))) = true := by
  obtain ⟨k1, k2, k3, k4, k5⟩ := picks_between (Y := may.map (·.id)) (b := b) hM hR hP
    (fun i hi => have ⟨m, hm, h⟩ := List.mem_map.1 hi; h ▸ hMR m hm) (fun i hi => List.mem_map.2 (hRY i hi))
    (fun i hi => have ⟨p, hp, h⟩ := List.mem_map.1 hi; h ▸ hPR p hp) (by rw [List.length_map, hlen])
  simp only [List.length_map] at k1 k2 k3 k5
  simp only [Bool.and_eq_true, Bool.or_eq_true, decide_eq_true_eq, beq_iff_eq, List.all_eq_true, List.any_eq_true]
  exact ⟨⟨⟨⟨k1, k2⟩, k3⟩, fun p hp => List.mem_map.1 (k4 (List.mem_map_of_mem hp))⟩,
    k5.imp_right fun h m hm => List.mem_map.1 (h (List.mem_map_of_mem hm))⟩

section dequeue
variable {c : Cfg} {now : Int} {q q0 q' : Q} {gone : List String} {route target : String} {batch ttl : Int}
  {resp : Resp} {m : Msg}

/-- a message the predicate wants offered survives the prune and is ready after the sweep -/
theorem must_ready (hinv : Inv q) (hsweep : 0 ≤ c.sweep) (hp : prune c now q gone = some q0) (hm : m ∈ q.msgs)
    (hnp : pruneAllowed (modelRec c now q (.dequeue route target batch ttl) resp q') m = false)
    (h : (C05.dueQueued (modelRec c now q (.dequeue route target batch ttl) resp q') route target m ||
      (m.st == .leased && decide (m.luntil ≤ now - c.sweep) && C03.matchesReq route target m)) = true) :
    m ∈ q0.msgs ∧ ready now route target (swf c now q.lastSweep m) = true := by
  have hage : pruneConfigured c = true → ageEligible c now m = false := fun hcfg =>
    Bool.eq_false_iff.2 fun ha => by
      rw [pruneAllowed_of_age (r := modelRec c now q (.dequeue route target batch ttl) resp q') rfl hcfg ha] at hnp
      cases hnp
  simp only [C05.dueQueued, modelRec, Bool.or_eq_true, Bool.and_eq_true, beq_iff_eq, decide_eq_true_eq] at h
  obtain ⟨⟨hst, hnext⟩, hreq⟩ | ⟨⟨hst, hlu⟩, hreq⟩ := h
  · refine ⟨prune_keeps hp hm (by simp [hst]) hage, ?_⟩
    rw [(swf_cases c now q.lastSweep m).resolve_right fun h => by simp [expired, hst] at h]
    exact ready_iff.2 ⟨hst, hreq, of_decide_eq_true hnext⟩
  · -- the lease ran out a sweep interval ago and after the last sweep: this sweep runs and releases it
    have hsd := (hinv.sweepDone m hm hst).1
    have : swf c now q.lastSweep m = release now m := by
      rw [swf, if_pos]
      simp only [expired, hst, beq_self_eq_true, Bool.true_and, Bool.and_eq_true, Bool.or_eq_true, decide_eq_true_eq]
      omega
    rw [this]
    exact ⟨prune_keeps hp hm (by simp [hst]) hage, ready_iff.2 ⟨rfl, hreq, Int.le_refl _⟩⟩

theorem may_of_ready {ls : Int} {r : Rec} (h : ready r.now route target (swf c r.now ls m) = true) :
    (C05.dueQueued r route target m || (expired r.now m && C03.matchesReq route target m)) = true := by
  obtain ⟨hr, ⟨hq, hn⟩ | he⟩ := due_of_ready (swf_cases c r.now ls m) h
  · simp [C05.dueQueued, hq, hn, hr]
  · simp [he, hr]

theorem C05_dequeue {picks : List (String × String)} (hinv : Inv q) (hsweep : 0 ≤ c.sweep)
    (hp : prune c now q gone = some q0)
    (hlegal : legalPicks now route target batch (sweep c now q0) picks = true) :
    C05.stepOK (modelRec c now q (.dequeue route target batch ttl) (.items picks) q') = true := by
  obtain ⟨hsub, hls, _⟩ := prune_sublist hp
  obtain ⟨hlen, hnd, _, hall⟩ := legalPicks_iff.1 hlegal
  rw [sweep_msgs, hls] at hlen hall
  -- `R`: the ids of the ready messages after housekeeping
  have hR : (((q0.msgs.map (swf c now q.lastSweep)).filter (ready now route target)).map (·.id)).Sublist
      (q.msgs.map (·.id)) := by
    refine (List.filter_sublist.map _).trans ?_
    simpa [Function.comp_def, swf_id] using hsub.map _
  refine offered_ok (hinv.nodup.sublist (List.filter_sublist.map _)) (hinv.nodup.sublist hR) hnd
    (fun m hm => ?_) (fun i hi => ?_)
    (fun p hp => have ⟨⟨x, hx, hxr, hid⟩, _⟩ := hall p hp; List.mem_map.2 ⟨x, List.mem_filter.2 ⟨hx, hxr⟩, hid⟩)
    (by simpa using hlen)
  · obtain ⟨hmq, hpred⟩ := List.mem_filter.1 hm
    obtain ⟨hnp, hdue⟩ := Bool.and_eq_true_iff.1 hpred
    obtain ⟨hin, hrdy⟩ := must_ready hinv hsweep hp hmq (by simpa using hnp) hdue
    exact List.mem_map.2 ⟨_, List.mem_filter.2 ⟨List.mem_map_of_mem hin, hrdy⟩, swf_id ..⟩
  · obtain ⟨x, hx, rfl⟩ := List.mem_map.1 hi
    obtain ⟨hx1, hxr⟩ := List.mem_filter.1 hx
    obtain ⟨m, hm, rfl⟩ := List.mem_map.1 hx1
    exact ⟨m, List.mem_filter.2 ⟨hsub.subset hm, may_of_ready hxr⟩, (swf_id ..).symm⟩

end dequeue

/-- a nack that succeeds found a holder of the id the backend looks up, and every holder is queued again with
    the requested delay -/
theorem nack_ok {c : Cfg} {now : Int} {q q' : Q} {d : Int} {l0 : String} {ch : Choice} (hinv : Inv q)
    (hstep : step c now q (.lease (.nack d) l0) ch = some (q', .ok)) :
    (∃ m0 ∈ q.msgs, holds (lookupId c l0) m0 = true) ∧
    (q.msgs.all fun m => !(liveLeased now m && m.lease == lookupId c l0) ||
      (match find q'.msgs m.id with
       | some m' => m'.st == .queued && m'.next == now + (if d < 0 then 0 else d)
       | none => false)) = true := by
  generalize hr : Resp.ok = r at hstep
  cases step_view hstep with
  | lease =>
    rcases leaseOne_cases c now (.nack d) (lookupId c l0) q.msgs with
      ⟨_, h⟩ | ⟨_, _, _, _, _, h⟩ | ⟨_, m0, hm0, hh0, _, h⟩ <;> rw [h] at hr ⊢
    · cases hr
    · cases hr
    · refine ⟨⟨m0, hm0, hh0⟩, List.all_eq_true.2 fun m hm => ?_⟩
      rw [find_filterMap hinv.nodup (fun x y h => by split at h; exact applyLease_id h; cases h; rfl) hm]
      cases hlive : liveLeased now m && m.lease == lookupId c l0 with
      | false => rfl
      | true =>
        simp only [liveLeased, Bool.and_eq_true, beq_iff_eq] at hlive
        rw [if_pos (holds_iff.2 ⟨hlive.1.1, hlive.2⟩)]
        simp [applyLease]

theorem C05_step' {c : Cfg} {now : Int} {q q' : Q} {op : Op} {ch : Choice} {r : Resp} (hinv : Inv q)
    (hsweep : 0 ≤ c.sweep) (hstep : step c now q op ch = some (q', r)) :
    C05.stepOK' (modelRec c now q op r q') = true := by
  cases op with
  | dequeue route target batch ttl =>
    cases step_view hstep with
    | dequeue hp hlegal => exact C05_dequeue hinv hsweep hp hlegal
  | lease k l0 =>
    cases k with
    | nack d =>
      cases r with
      | ok => exact (nack_ok hinv hstep).2
      | _ => rfl
    | _ => rfl
  | restart =>
    cases step_view hstep with
    | restart => simp [C05.stepOK', C05.stepOK, modelRec]
  | _ => rfl

/-- the two predicates differ only in the lease id that the clause for a successful nack compares with -/
theorem stepOK_of_stepOK' {r : Rec} (h' : C05.stepOK' r = true)
    (h : ∀ d l0, r.op = .lease (.nack d) l0 → r.resp = .ok → trimWS l0 = if r.cfg.memory then l0 else trimWS l0) :
    C05.stepOK r = true := by
  unfold C05.stepOK' at h'
  split at h'
  next d l0 hop hresp =>
    rw [← h d l0 hop hresp] at h'
    rw [C05.stepOK, hop, hresp]
    exact h'
  · exact h'

end P05

/-- General form: C05 holds of every model step provided
    * `hsweep`: the sweep granularity is not negative, and
    * `hl0`: on the memory backend (which looks a presented lease id up verbatim, while the predicate
      compares with the trimmed id) a presented id that is currently held equals its trimmed form. -/
theorem C05_model_gen (c : Cfg) (now : Int) (q q' : Q) (op : Op) (ch : Choice) (r : Resp)
    (hinv : Inv q)
    (hsweep : 0 ≤ c.sweep)
    (hl0 : c.memory = true → ∀ d l0, op = .lease (.nack d) l0 →
      (∃ m0 ∈ q.msgs, m0.st = .leased ∧ m0.lease = l0) → trimWS l0 = l0)
    (hstep : step c now q op ch = some (q', r)) :
    C05.stepOK (modelRec c now q op r q') = true := by
  refine P05.stepOK_of_stepOK' (P05.C05_step' hinv hsweep hstep)
    fun d l0 (hop : op = .lease (.nack d) l0) (hresp : r = .ok) => ?_
  subst hop hresp
  show trimWS l0 = if c.memory then l0 else trimWS l0
  split
  next hmem =>
    obtain ⟨m0, hm0, hh0⟩ := (P05.nack_ok hinv hstep).1
    exact hl0 hmem d l0 rfl ⟨m0, hm0, by simpa [lookupId, hmem] using holds_iff.1 hh0⟩
  · rfl

/-- **C05 for the model.**  Two hypotheses without which the statement is false:
    * `hsweep : 0 ≤ c.sweep` (a configuration constraint), and
    * `htrim`: on the memory backend no lease id in use carries surrounding blanks (`trimWS` fixes it);
      runs keep that (`Trimmed`, `trimmed_step`). -/
theorem C05_model (c : Cfg) (now : Int) (q q' : Q) (op : Op) (ch : Choice) (r : Resp)
    (hinv : Inv q) (_hclock : q.lastSweep ≤ now)
    (hsweep : 0 ≤ c.sweep)
    (htrim : c.memory = true → ∀ m ∈ q.msgs, m.st = .leased → trimWS m.lease = m.lease)
    (hstep : step c now q op ch = some (q', r)) :
    C05.stepOK (modelRec c now q op r q') = true := by
  apply C05_model_gen c now q q' op ch r hinv hsweep _ hstep
  rintro hmem d l0 - ⟨m0, hm0, hst0, rfl⟩
  exact htrim hmem m0 hm0 hst0

/-- Variant: instead of the state hypothesis `htrim`, the client presents trimmed lease ids to the
    memory backend. -/
theorem C05_model_trimmedOp (c : Cfg) (now : Int) (q q' : Q) (op : Op) (ch : Choice) (r : Resp)
    (hinv : Inv q) (_hclock : q.lastSweep ≤ now)
    (hsweep : 0 ≤ c.sweep)
    (hop : c.memory = true → ∀ d l0, op = .lease (.nack d) l0 → trimWS l0 = l0)
    (hstep : step c now q op ch = some (q', r)) :
    C05.stepOK (modelRec c now q op r q') = true :=
  C05_model_gen c now q q' op ch r hinv hsweep (fun hmem d l0 h _ => hop hmem d l0 h) hstep

/-- `C05.stepOK'` is `C05.stepOK` with the nack clause comparing `m.lease` with the id the backend actually
    looks up (`l0` verbatim on the memory backend, `trimWS l0` on SQLite). For it only `0 ≤ c.sweep` is
    needed. -/
theorem C05_model' (c : Cfg) (now : Int) (q q' : Q) (op : Op) (ch : Choice) (r : Resp)
    (hinv : Inv q) (_hclock : q.lastSweep ≤ now)
    (hsweep : 0 ≤ c.sweep)
    (hstep : step c now q op ch = some (q', r)) :
    C05.stepOK' (modelRec c now q op r q') = true :=
  P05.C05_step' hinv hsweep hstep

end Hk

#print axioms Hk.C05_model_gen
#print axioms Hk.C05_model_trimmedOp
#print axioms Hk.C05_model'
#print axioms Hk.C05_model
