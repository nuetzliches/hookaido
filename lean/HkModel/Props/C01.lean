import HkModel.Model.Crash
import HkModel.Generated.CrashOrder
import HkModel.Proofs.Scan
/-!
  C01 — crash durability.

  Route: (A) a crash prefix of a history ends inside the events of one request, and inside one transaction of it; only
  `commit` changes what is committed.  So the event fold over a crash prefix of `progs` is the fold of an abstract
  request semantics `applyReq` over the completed requests plus one *partial* request (`crash_prefix`, of which
  `recover_char` is the case of a history run from the empty store); (B) for such a store every clause of `crashCheck`
  follows from `wellFormed` (`clauses_static`, `crash_safe`).
-/
namespace Hk.Crash

theorem prefix_block {α} {l b t : List α} {a : α} (h : l <+: b ++ a :: t) :
    l <+: b ∨ ∃ t', l = b ++ a :: t' ∧ t' <+: t := by
  rcases List.prefix_or_prefix_of_prefix h (List.prefix_append b (a :: t)) with h1 | ⟨s, rfl⟩
  · exact .inl h1
  · rcases List.prefix_cons_iff.1 ((List.prefix_append_right_inj b).1 h) with rfl | ⟨t', rfl, ht'⟩
    · exact .inl (by simp)
    · exact .inr ⟨t', rfl, ht'⟩

/-- key and target of a stored message: the pair `wellFormed` keeps distinct (`keysOf`), and by which `count`
    and `stOf` select -/
def kt (m : CMsg) : String × String := (m.key, m.target)

def setF (key target : String) (st : CSt) (m : CMsg) : CMsg :=
  if m.key == key && m.target == target then { m with st := st } else m

def applyReq (ms : List CMsg) : CReq → List CMsg
  | .ingress body targets => ms ++ targets.map fun t => ⟨body, t, .queued⟩
  | .publish ids target => ms ++ ids.map fun id => ⟨id, target, .queued⟩
  | .leaseOp k key target => ms.map (setF key target k.result)

def run (S : List CReq) : List CMsg := S.foldl applyReq []

theorem run_append (A B : List CReq) : run (A ++ B) = B.foldl applyReq (run A) := List.foldl_append

/-- the neutral partial request, for a crash before the first commit of a request: `keysOf nothing = []`,
    `applyReq ms nothing = ms` -/
def nothing : CReq := .ingress "" []

@[simp] theorem applyReq_nothing (ms : List CMsg) : applyReq ms nothing = ms := by simp [applyReq, nothing]

/-- `r'` is what a crash inside the handling of `r` can leave committed -/
def Sub (r' r : CReq) : Prop :=
  r' = r ∨ ∃ body ts ts', r = .ingress body (ts ++ ts') ∧ r' = .ingress body ts

/-- what a crash can leave of the not yet completed part `rest` of the history -/
def Partial (r' : CReq) (rest : List CReq) : Prop := r' = nothing ∨ ∃ r rest', rest = r :: rest' ∧ Sub r' r

@[simp] theorem stepEv_begin (s : Store) : stepEv s .begin = { s with pending := some [] } := rfl
@[simp] theorem stepEv_put (ms : List CMsg) (buf : List Ev) (m : CMsg) :
    stepEv ⟨ms, some buf⟩ (.put m) = ⟨ms, some (buf ++ [.put m])⟩ := rfl
@[simp] theorem stepEv_commit (ms : List CMsg) (buf : List Ev) :
    stepEv ⟨ms, some buf⟩ .commit = ⟨buf.foldl applyWrite ms, none⟩ := rfl
@[simp] theorem applyWrite_put (ms : List CMsg) (m : CMsg) : applyWrite ms (.put m) = ms ++ [m] := rfl

theorem committed_stepEv (s : Store) {e : Ev} (he : e ≠ .commit) : (stepEv s e).committed = s.committed := by
  cases e with
  | commit => exact absurd rfl he
  | begin | respond => rfl
  | put | setSt => rcases s with ⟨_, _ | _⟩ <;> rfl

theorem committed_foldl : ∀ (evs : List Ev) (s : Store), Ev.commit ∉ evs → (evs.foldl stepEv s).committed = s.committed
  | [], _, _ => rfl
  | e :: evs, s, h => by
    rw [List.foldl_cons, committed_foldl evs _ fun h' => h (List.mem_cons_of_mem _ h'),
      committed_stepEv s fun he => h (he ▸ List.mem_cons_self)]

theorem fold_puts {α} (ms : List CMsg) (f : α → CMsg) : ∀ (l : List α) (buf : List Ev),
    (l.map fun a => Ev.put (f a)).foldl stepEv ⟨ms, some buf⟩ = ⟨ms, some (buf ++ l.map fun a => .put (f a))⟩
  | [], buf => by simp
  | a :: l, buf => by
    rw [List.map_cons, List.foldl_cons, stepEv_put, fold_puts ms f l, List.append_assoc, List.singleton_append]

theorem applyWrite_puts {α} (f : α → CMsg) : ∀ (l : List α) (ms : List CMsg),
    (l.map fun a => Ev.put (f a)).foldl applyWrite ms = ms ++ l.map f
  | [], ms => by simp
  | a :: l, ms => by
    rw [List.map_cons, List.foldl_cons, applyWrite_put, applyWrite_puts f l, List.append_assoc, List.singleton_append,
      List.map_cons]

def progBody : CReq → List Ev
  | .ingress body targets => targets.flatMap fun t => [.begin, .put ⟨body, t, .queued⟩, .commit]
  | .publish ids target => [.begin] ++ ids.map (fun id => .put ⟨id, target, .queued⟩) ++ [.commit]
  | .leaseOp k key target => [.begin, .setSt key target k.result, .commit]

theorem prog_eq (i : Nat) (r : CReq) : prog i r = progBody r ++ [.respond i] := by
  cases r <;> simp [prog, progBody]

theorem respond_not_mem_body (i : Nat) (r : CReq) : Ev.respond i ∉ progBody r := by
  cases r <;> simp [progBody]

theorem fold_ingress (body : String) : ∀ (targets : List String) (ms : List CMsg),
    (progBody (.ingress body targets)).foldl stepEv ⟨ms, none⟩ = ⟨applyReq ms (.ingress body targets), none⟩
  | [], ms => by simp [progBody, applyReq]
  | t :: ts, ms => by
    -- `begin`, `put`, `commit` of the head target, by reduction
    show (progBody (.ingress body ts)).foldl stepEv ⟨ms ++ [⟨body, t, .queued⟩], none⟩ = _
    rw [fold_ingress body ts]
    simp [applyReq]

theorem fold_body (r : CReq) (ms : List CMsg) :
    (progBody r).foldl stepEv ⟨ms, none⟩ = ⟨applyReq ms r, none⟩ := by
  cases r with
  | ingress body targets => exact fold_ingress body targets ms
  | publish ids target =>
    simp only [progBody, List.foldl_append, List.foldl_cons, List.foldl_nil, stepEv_begin, fold_puts, stepEv_commit,
      applyWrite_puts, applyReq]
  | leaseOp k key target => rfl

theorem fold_prog (i : Nat) (r : CReq) (ms : List CMsg) :
    (prog i r).foldl stepEv ⟨ms, none⟩ = ⟨applyReq ms r, none⟩ := by
  rw [prog_eq, List.foldl_append, fold_body]; rfl

theorem fold_progs : ∀ (l : List CReq) (start : Nat) (ms : List CMsg),
    (progs start l).foldl stepEv ⟨ms, none⟩ = ⟨l.foldl applyReq ms, none⟩
  | [], _, _ => rfl
  | r :: l, start, ms => by rw [progs, List.foldl_append, fold_prog, fold_progs l, List.foldl_cons]

theorem fold_ingress_prefix (body : String) : ∀ (targets : List String) (ms : List CMsg) (evs : List Ev),
    evs <+: progBody (.ingress body targets) → ∃ ts ts', targets = ts ++ ts' ∧
      (evs.foldl stepEv ⟨ms, none⟩).committed = applyReq ms (.ingress body ts)
  | [], ms, evs, h => ⟨[], [], rfl, by rw [List.prefix_nil.1 h]; simp [applyReq]⟩
  | t :: targets, ms, evs, h => by
    rcases prefix_block (b := [Ev.begin, .put ⟨body, t, .queued⟩]) h with h1 | ⟨evs', rfl, h'⟩
    · refine ⟨[], t :: targets, rfl, ?_⟩
      rw [committed_foldl _ _ fun hc => by simpa using h1.subset hc]
      simp [applyReq]
    · obtain ⟨ts, ts', rfl, he⟩ := fold_ingress_prefix body targets (ms ++ [⟨body, t, .queued⟩]) evs' h'
      exact ⟨t :: ts, ts', rfl, he.trans (by simp [applyReq])⟩

/-- a request handled in one transaction (`hr`, `hb`) is atomic -/
theorem fold_tx_prefix {r : CReq} {b : List Ev} (hr : progBody r = b ++ [.commit]) (hb : Ev.commit ∉ b) (ms : List CMsg)
    {evs : List Ev} (h : evs <+: progBody r) :
    ∃ r', (r' = nothing ∨ Sub r' r) ∧ (evs.foldl stepEv ⟨ms, none⟩).committed = applyReq ms r' := by
  rcases List.prefix_concat_iff.1 (hr ▸ h) with rfl | h1
  · exact ⟨r, .inr (.inl rfl), by rw [← hr, fold_body]⟩
  · exact ⟨nothing, .inl rfl, by rw [applyReq_nothing]; exact committed_foldl _ _ fun hc => hb (h1.subset hc)⟩

theorem fold_body_prefix (r : CReq) (ms : List CMsg) {evs : List Ev} (h : evs <+: progBody r) :
    ∃ r', (r' = nothing ∨ Sub r' r) ∧ (evs.foldl stepEv ⟨ms, none⟩).committed = applyReq ms r' := by
  cases r with
  | ingress body targets =>
    obtain ⟨ts, ts', rfl, he⟩ := fold_ingress_prefix body targets ms evs h
    exact ⟨_, .inr (.inr ⟨body, ts, ts', rfl, rfl⟩), he⟩
  | publish ids target =>
    exact fold_tx_prefix (b := .begin :: ids.map fun id => .put ⟨id, target, .queued⟩) rfl (by simp) ms h
  | leaseOp k key target => exact fold_tx_prefix (b := [.begin, .setSt key target k.result]) rfl (by simp) ms h

theorem crash_prefix : ∀ (script : List CReq) (start : Nat) (ms : List CMsg) (evs : List Ev), evs <+: progs start script →
    ∃ done rest r', script = done ++ rest ∧ Partial r' rest ∧
      (evs.foldl stepEv ⟨ms, none⟩).committed = (done ++ [r']).foldl applyReq ms ∧
      ∀ i, Ev.respond i ∈ evs → i < start + done.length
  | [], _, ms, evs, h => ⟨[], [], nothing, rfl, .inl rfl, by simp [List.prefix_nil.1 h], by simp [List.prefix_nil.1 h]⟩
  | r :: script, start, ms, evs, h => by
    rw [progs, prog_eq, List.append_assoc] at h
    rcases prefix_block h with h1 | ⟨evs', rfl, h'⟩
    · obtain ⟨r', hr', he⟩ := fold_body_prefix r ms h1
      exact ⟨[], r :: script, r', rfl, hr'.imp id fun hs => ⟨r, script, rfl, hs⟩, he,
        fun i hi => absurd (h1.subset hi) (respond_not_mem_body i r)⟩
    · obtain ⟨done, rest, r', rfl, hp, he, hack⟩ := crash_prefix script (start + 1) (applyReq ms r) evs' h'
      refine ⟨r :: done, rest, r', rfl, hp, ?_, fun i hi => ?_⟩
      · rw [List.foldl_append, fold_body]; exact he
      · simp only [List.mem_append, List.mem_cons, Ev.respond.injEq] at hi
        rcases hi with hi | rfl | hi
        · exact absurd hi (respond_not_mem_body i r)
        · simp
        · have := hack i hi; simp only [List.length_cons]; omega

theorem acked_iff (evs : List Ev) (i : Nat) : acked evs i = true ↔ Ev.respond i ∈ evs := by
  simp [acked]

theorem recover_char (script : List CReq) (k : Nat) :
    ∃ done rest r', script = done ++ rest ∧ Partial r' rest ∧
      recover ((progs 0 script).take k) = run (done ++ [r']) ∧
      ∀ i, acked ((progs 0 script).take k) i = true → i < done.length := by
  obtain ⟨done, rest, r', hs, hp, he, hack⟩ := crash_prefix script 0 [] _ (List.take_prefix k _)
  exact ⟨done, rest, r', hs, hp, he, fun i hi => by simpa using hack i ((acked_iff _ _).1 hi)⟩

def keysAll (S : List CReq) : List (String × String) := S.flatMap keysOf

@[simp] theorem keysAll_nil : keysAll [] = [] := rfl
@[simp] theorem keysAll_cons (r : CReq) (S : List CReq) : keysAll (r :: S) = keysOf r ++ keysAll S := by
  simp [keysAll]
@[simp] theorem keysAll_append (A B : List CReq) : keysAll (A ++ B) = keysAll A ++ keysAll B := by
  simp [keysAll]

theorem mem_keysAll {x : String × String} {S : List CReq} : x ∈ keysAll S ↔ ∃ r ∈ S, x ∈ keysOf r := by
  simp [keysAll]

theorem kt_setF (key target : String) (st : CSt) (m : CMsg) : kt (setF key target st m) = kt m := by
  unfold setF; split <;> rfl

theorem applyReq_kt (ms : List CMsg) (r : CReq) : (applyReq ms r).map kt = ms.map kt ++ keysOf r := by
  cases r with
  | leaseOp k key target => simp [applyReq, keysOf, kt_setF]
  | _ => simp [applyReq, keysOf, kt]

theorem foldl_applyReq_kt : ∀ (S : List CReq) (ms : List CMsg), (S.foldl applyReq ms).map kt = ms.map kt ++ keysAll S
  | [], ms => by simp
  | r :: S, ms => by rw [List.foldl_cons, foldl_applyReq_kt S, applyReq_kt, keysAll_cons, List.append_assoc]

theorem run_kt (S : List CReq) : (run S).map kt = keysAll S := foldl_applyReq_kt S []

theorem count_eq (after : List CMsg) (key target : String) :
    count after key target = (after.map kt).count (key, target) := by
  rw [count, List.count_eq_countP, List.countP_map, List.countP_eq_length_filter]
  rfl

theorem count_run {S : List CReq} (hnd : (keysAll S).Nodup) (key target : String) :
    count (run S) key target = if (key, target) ∈ keysAll S then 1 else 0 := by
  rw [count_eq, run_kt, hnd.count]

theorem wf_nodup : ∀ (script : List CReq) (seen : List (String × String)), seen.Nodup → wellFormedFrom seen script = true →
    (seen ++ keysAll script).Nodup
  | [], _, hs, _ => by simpa using hs
  | r :: rest, seen, hs, h => by
    simp only [wellFormedFrom, Bool.and_eq_true] at h
    rw [keysAll_cons, ← List.append_assoc]
    refine wf_nodup rest _ ?_ h.2
    cases r with
    | leaseOp => simpa [keysOf] using hs
    | _ =>
      simp only [Bool.and_eq_true, List.all_eq_true] at h
      exact List.nodup_append.2 ⟨hs, List.nodup_of_eraseDups (eq_of_beq h.1.2),
        fun a ha b hb hab => absurd (hab ▸ ha) (by simpa using h.1.1 b hb)⟩

theorem wf_lease {k : LeaseKind} {key target : String} {B : List CReq} : ∀ {A : List CReq} {seen : List (String × String)},
    wellFormedFrom seen (A ++ .leaseOp k key target :: B) = true → (key, target) ∈ seen ++ keysAll A
  | [], seen, h => by
    simp only [List.nil_append, wellFormedFrom, Bool.and_eq_true] at h
    simpa using h.1
  | r :: A, seen, h => by
    simp only [List.cons_append, wellFormedFrom, Bool.and_eq_true] at h
    simpa using wf_lease h.2

theorem leaseKeys_append (A B : List CReq) : leaseKeys (A ++ B) = leaseKeys A ++ leaseKeys B := by
  simp [leaseKeys]

theorem mem_leaseKeys {L : List CReq} {k : LeaseKind} {key target : String} (h : CReq.leaseOp k key target ∈ L) :
    (key, target) ∈ leaseKeys L :=
  List.mem_filterMap.2 ⟨_, h, rfl⟩

theorem lease_unique {A B : List CReq} {k : LeaseKind} {key target : String}
    (h : (leaseKeys (A ++ .leaseOp k key target :: B)).Nodup) (k' : LeaseKind) : CReq.leaseOp k' key target ∉ B := by
  rw [leaseKeys_append] at h
  exact fun hm => (List.nodup_cons.1 (List.nodup_append.1 h).2.1).1 (mem_leaseKeys hm)

theorem mem_applyReq {ms : List CMsg} {r : CReq} {m : CMsg} (h : m ∈ applyReq ms r) :
    m ∈ ms ∨ m.st = .queued ∨ ∃ k, r = .leaseOp k m.key m.target ∧ m.st = k.result := by
  cases r with
  | leaseOp k key target =>
    obtain ⟨m0, hm0, rfl⟩ := List.mem_map.1 h
    unfold setF
    split
    · next hm => simp only [Bool.and_eq_true, beq_iff_eq] at hm; exact .inr (.inr ⟨k, by rw [hm.1, hm.2], rfl⟩)
    · exact .inl hm0
  | _ =>
    rcases List.mem_append.1 h with h | h
    · exact .inl h
    · obtain ⟨_, _, rfl⟩ := List.mem_map.1 h; exact .inr (.inl rfl)

theorem run_state (S : List CReq) : ∀ m ∈ run S,
    m.st = .queued ∨ ∃ k, CReq.leaseOp k m.key m.target ∈ S ∧ m.st = k.result := by
  -- an invariant of the fold; each step is handed `hr : r ∈ S`
  refine List.foldlRecOn (motive := fun ms => ∀ m ∈ ms,
      m.st = .queued ∨ ∃ k, CReq.leaseOp k m.key m.target ∈ S ∧ m.st = k.result)
    S applyReq (fun _ h => absurd h List.not_mem_nil) fun ms ih r hr m hm => ?_
  rcases mem_applyReq hm with h | h | ⟨k, rfl, h⟩
  · exact ih m h
  · exact .inl h
  · exact .inr ⟨k, hr, h⟩

/-- with at most one message per key, `stOf` reads the state of that message -/
theorem stOf_of_mem {ms : List CMsg} {m : CMsg} (hm : m ∈ ms) (hc : count ms m.key m.target ≤ 1) :
    stOf ms m.key m.target = some m.st := by
  have hf : m ∈ ms.filter fun x => x.key == m.key && x.target == m.target := List.mem_filter.2 ⟨hm, by simp⟩
  rw [stOf, ← List.head?_filter]
  unfold count at hc
  generalize ms.filter _ = l at hf hc
  obtain ⟨a, rfl⟩ := List.length_eq_one_iff.1 (Nat.le_antisymm hc (List.length_pos_of_mem hf))
  rw [List.mem_singleton.1 hf]
  rfl

/-- a message that no request of `B` addresses stays in the store as it is -/
theorem mem_foldl_applyReq {m : CMsg} : ∀ (B : List CReq) {ms : List CMsg}, m ∈ ms →
    (∀ k, CReq.leaseOp k m.key m.target ∉ B) → m ∈ B.foldl applyReq ms
  | [], _, h, _ => h
  | r :: B, ms, h, hB => by
    refine mem_foldl_applyReq B ?_ fun k hk => hB k (List.mem_cons_of_mem _ hk)
    cases r with
    | leaseOp k' key' target' =>
      refine List.mem_map.2 ⟨m, h, if_neg ?_⟩
      simp only [Bool.and_eq_true, beq_iff_eq]
      rintro ⟨rfl, rfl⟩
      exact hB k' List.mem_cons_self
    | _ => exact List.mem_append_left _ h

theorem lease_final {A B : List CReq} {k : LeaseKind} {key target : String}
    (hc : count (run (A ++ .leaseOp k key target :: B)) key target ≤ 1) (hA : (key, target) ∈ keysAll A)
    (hB : ∀ k', CReq.leaseOp k' key target ∉ B) :
    stOf (run (A ++ .leaseOp k key target :: B)) key target = some k.result := by
  obtain ⟨m, hm, hk⟩ := List.mem_map.1 (run_kt A ▸ hA)
  cases hk
  have hset : (⟨m.key, m.target, k.result⟩ : CMsg) ∈ applyReq (run A) (.leaseOp k m.key m.target) :=
    List.mem_map.2 ⟨m, hm, by simp [setF]⟩
  refine stOf_of_mem (m := ⟨m.key, m.target, k.result⟩) ?_ hc
  rw [run_append, List.foldl_cons]
  exact mem_foldl_applyReq B hset hB

theorem partial_sublist {r' : CReq} {rest : List CReq} (hp : Partial r' rest) (done : List CReq) :
    (keysAll (done ++ [r'])).Sublist (keysAll (done ++ rest)) := by
  rw [keysAll_append, keysAll_append]
  refine ((List.prefix_append_right_inj _).2 ?_).sublist
  rcases hp with rfl | ⟨r, rest', rfl, rfl | ⟨body, ts, ts', rfl, rfl⟩⟩ <;> simp [nothing, keysOf]

theorem partial_lease {r' : CReq} {rest : List CReq} (hp : Partial r' rest) (X : List CReq) {k : LeaseKind}
    {key target : String} (h : CReq.leaseOp k key target ∈ X ++ [r']) : CReq.leaseOp k key target ∈ X ++ rest := by
  rcases List.mem_append.1 h with h | h
  · exact List.mem_append_left _ h
  rw [List.mem_singleton] at h
  rcases hp with rfl | ⟨r, rest', rfl, rfl | ⟨body, ts, ts', rfl, rfl⟩⟩
  · cases h
  · exact h ▸ List.mem_append_right _ List.mem_cons_self
  · cases h

theorem keys_disjoint {A B : List CReq} (hnd : (keysAll (A ++ B)).Nodup) {q : CReq} (hq : q ∈ B) {x : String × String}
    (hx : x ∈ keysOf q) : x ∉ keysAll A := by
  rw [keysAll_append] at hnd
  exact fun hA => (List.nodup_append.1 hnd).2.2 x hA x (mem_keysAll.2 ⟨q, hq, hx⟩) rfl

theorem pub_split {done rest : List CReq} {r' : CReq} (hp : Partial r' rest) (hnd : (keysAll (done ++ rest)).Nodup)
    {ids : List String} {target : String} (hmem : CReq.publish ids target ∈ done ++ rest) :
    CReq.publish ids target ∈ done ++ [r'] ∨ ∀ x ∈ keysOf (.publish ids target), x ∉ keysAll (done ++ [r']) := by
  rcases List.mem_append.1 hmem with h | h
  · exact .inl (List.mem_append_left _ h)
  rcases hp with rfl | ⟨r, rest', rfl, hsub⟩
  · exact .inr fun x hx => by simpa [nothing, keysOf] using keys_disjoint hnd h hx
  rcases List.mem_cons.1 h with rfl | h
  · rcases hsub with rfl | ⟨_, _, _, hr, _⟩
    · exact .inl (by simp)
    · cases hr
  · exact .inr fun x hx hx' => keys_disjoint (A := done ++ [r]) (by simpa using hnd) h hx
      ((partial_sublist (.inr ⟨r, [], rfl, hsub⟩) done).subset hx')

/-- the clauses of `crashCheck`, as propositions -/
structure Clauses (script : List CReq) (ack : Nat → Bool) (after : List CMsg) : Prop where
  ingress_acked : ∀ (i : Nat) body targets, script[i]? = some (CReq.ingress body targets) → ack i = true →
    ∀ t ∈ targets, count after body t = 1
  no_dup : ∀ key target, count after key target ≤ 1
  publish_acked : ∀ (i : Nat) ids target, script[i]? = some (CReq.publish ids target) → ack i = true →
    ∀ id ∈ ids, count after id target = 1
  publish_atomic : ∀ (i : Nat) ids target, script[i]? = some (CReq.publish ids target) →
    (∀ id ∈ ids, count after id target = 0) ∨ (∀ id ∈ ids, count after id target = 1)
  explained : ∀ m ∈ after, ∃ r ∈ script, kt m ∈ keysOf r
  state : ∀ m ∈ after, m.st = .queued ∨ ∃ k, CReq.leaseOp k m.key m.target ∈ script ∧ m.st = k.result
  lease_acked : ∀ (i : Nat) k key target, script[i]? = some (CReq.leaseOp k key target) → ack i = true →
    stOf after key target = some k.result

theorem clauses_static (done rest : List CReq) (r' : CReq) (ack : Nat → Bool) (hp : Partial r' rest)
    (hwf : wellFormed (done ++ rest) = true) (hack : ∀ i, ack i = true → i < done.length) :
    Clauses (done ++ rest) ack (run (done ++ [r'])) := by
  simp only [wellFormed, Bool.and_eq_true] at hwf
  have hnd : (keysAll (done ++ rest)).Nodup := wf_nodup _ [] .nil hwf.1
  have hsub := partial_sublist hp done
  have hcount := count_run (hsub.nodup hnd)
  have hle : ∀ key target, count (run (done ++ [r'])) key target ≤ 1 := fun key target => by
    rw [hcount]; split <;> omega
  have hin : ∀ r ∈ done ++ [r'], ∀ key target, (key, target) ∈ keysOf r → count (run (done ++ [r'])) key target = 1 :=
    fun r hr key target hx => by rw [hcount, if_pos (mem_keysAll.2 ⟨r, hr, hx⟩)]
  have hdone : ∀ {i r}, (done ++ rest)[i]? = some r → ack i = true → r ∈ done :=
    fun hi ha => List.mem_of_getElem? (List.getElem?_append_left (hack _ ha) ▸ hi)
  exact {
    ingress_acked := fun i body targets hi ha t ht =>
      hin _ (List.mem_append_left _ (hdone hi ha)) _ _ (List.mem_map_of_mem ht)
    no_dup := hle
    publish_acked := fun i ids target hi ha id hid =>
      hin _ (List.mem_append_left _ (hdone hi ha)) _ _ (List.mem_map_of_mem (f := (·, target)) hid)
    publish_atomic := fun i ids target hi => by
      rcases pub_split hp hnd (List.mem_of_getElem? hi) with h | h
      · exact .inr fun id hid => hin _ h _ _ (List.mem_map_of_mem (f := (·, target)) hid)
      · exact .inl fun id hid => by rw [hcount, if_neg (h _ (List.mem_map_of_mem (f := (·, target)) hid))]
    explained := fun m hm => mem_keysAll.1 (hsub.subset (run_kt _ ▸ List.mem_map_of_mem hm))
    state := fun m hm => (run_state _ m hm).imp id fun ⟨k, h1, h2⟩ => ⟨k, partial_lease hp done h1, h2⟩
    lease_acked := fun i k key target hi ha => by
      -- `done = A ++ op :: B`: `A` stored the message, and nothing in `B ++ rest`, so nothing in `B ++ [r']`, addresses it again
      obtain ⟨A, B, rfl⟩ := List.append_of_mem (hdone hi ha)
      rw [List.append_assoc, List.cons_append] at hwf hle ⊢
      have huniq := lease_unique (List.nodup_of_eraseDups (eq_of_beq hwf.2))
      exact lease_final (hle key target) (by simpa using wf_lease hwf.1) fun k' hm => huniq k' (partial_lease hp B hm) }

theorem clauses_at_crash (script : List CReq) (hwf : wellFormed script = true) (k : Nat) :
    Clauses script (acked ((progs 0 script).take k)) (recover ((progs 0 script).take k)) := by
  obtain ⟨done, rest, r', rfl, hp, hrec, hack⟩ := recover_char script k
  exact hrec ▸ clauses_static done rest r' _ hp hwf hack

theorem any_sentAt {script : List CReq} {evs : List Ev} {p : Sent → Bool} :
    (sentAt script evs).any p = true ↔ ∃ i r, script[i]? = some r ∧ p ⟨r, acked evs i⟩ = true := by
  simp only [sentAt, List.any_map, List.any_eq_true, Prod.exists, List.mem_zipIdx_iff_getElem?]
  exact ⟨fun ⟨r, i, h⟩ => ⟨i, r, h⟩, fun ⟨i, r, h⟩ => ⟨r, i, h⟩⟩

theorem explained_sentAt {script : List CReq} (evs : List Ev) {m : CMsg} (h : ∃ r ∈ script, kt m ∈ keysOf r) :
    explained (sentAt script evs) m = true := by
  obtain ⟨r, hr, hk⟩ := h
  obtain ⟨i, hi⟩ := List.getElem?_of_mem hr
  refine any_sentAt.2 ⟨i, r, hi, ?_⟩
  cases r with
  | leaseOp k key target => simp [keysOf] at hk
  | _ =>
    obtain ⟨t, ht, h⟩ := List.mem_map.1 hk
    cases h
    simp [ht]

theorem not_any_not {α} {l : List α} {p : α → Bool} : ¬ (l.any fun a => !p a) = true ↔ ∀ a ∈ l, p a = true := by
  simp

theorem not_any_sentAt {script : List CReq} {evs : List Ev} {p : Sent → Bool}
    (h : ∀ i r, script[i]? = some r → p ⟨r, acked evs i⟩ = false) : ¬ (sentAt script evs).any p = true := by
  rw [any_sentAt]
  rintro ⟨i, r, hi, hp⟩
  exact Bool.false_ne_true ((h i r hi).symm.trans hp)

theorem crashCheck_of_clauses (script : List CReq) (evs : List Ev) (after : List CMsg)
    (C : Clauses script (acked evs) after) : crashCheck (sentAt script evs) after = none := by
  unfold crashCheck
  rw [if_neg ?ingress_acked, if_neg ?no_dup, if_neg ?publish_acked, if_neg ?publish_atomic, if_neg ?explained, if_neg ?state,
    if_neg ?lease_acked]
  -- each test on what was sent looks at one kind of request and is, there, the Boolean form of one clause
  case ingress_acked =>
    refine not_any_sentAt fun i r hi => ?_
    cases r with
    | ingress body targets => simpa using C.ingress_acked i body targets hi
    | _ => rfl
  case no_dup =>
    refine not_any_sentAt fun i r _ => ?_
    cases r with
    | ingress body targets => simpa using fun t _ => C.no_dup body t
    | _ => rfl
  case publish_acked =>
    refine not_any_sentAt fun i r hi => ?_
    cases r with
    | publish ids target => simpa using C.publish_acked i ids target hi
    | _ => rfl
  case publish_atomic =>
    refine not_any_sentAt fun i r hi => ?_
    cases r with
    | publish ids target =>
      simpa only [Bool.not_eq_eq_eq_not, Bool.not_false, Bool.or_eq_true, List.all_eq_true, beq_iff_eq]
        using C.publish_atomic i ids target hi
    | _ => rfl
  case explained => exact not_any_not.2 fun m hm => explained_sentAt evs (C.explained m hm)
  case state =>
    refine not_any_not.2 fun m hm => ?_
    simp only [stateAllowed, Bool.or_eq_true, beq_iff_eq, any_sentAt]
    refine (C.state m hm).imp id fun ⟨k, h1, h2⟩ => ?_
    obtain ⟨i, hi⟩ := List.getElem?_of_mem h1
    exact ⟨i, _, hi, by simp [h2]⟩
  case lease_acked =>
    refine not_any_sentAt fun i r hi => ?_
    cases r with
    | leaseOp k key target => simpa using C.lease_acked i k key target hi
    | _ => rfl

/-- **C01 main theorem**: at every crash point `k` of every well-formed history the reopened store satisfies the
    property. -/
theorem crash_safe (script : List CReq) (hwf : wellFormed script = true) (k : Nat) :
    crashCheck (sentAt script ((progs 0 script).take k)) (recover ((progs 0 script).take k)) = none :=
  crashCheck_of_clauses _ _ _ (clauses_at_crash script hwf k)

/-- an acknowledged ingress request has exactly one stored message per target, whatever happens afterwards -/
theorem ack_durable (script : List CReq) (hwf : wellFormed script = true) (k i : Nat) (body : String) (targets : List String)
    (hi : script[i]? = some (CReq.ingress body targets)) (hresp : Ev.respond i ∈ (progs 0 script).take k) :
    ∀ t ∈ targets, count (recover ((progs 0 script).take k)) body t = 1 :=
  (clauses_at_crash script hwf k).ingress_acked i body targets hi ((acked_iff _ _).2 hresp)

theorem publish_atomic (script : List CReq) (hwf : wellFormed script = true) (k i : Nat) (ids : List String) (target : String)
    (hi : script[i]? = some (CReq.publish ids target)) :
    (∀ id ∈ ids, count (recover ((progs 0 script).take k)) id target = 1) ∨
    (∀ id ∈ ids, count (recover ((progs 0 script).take k)) id target = 0) :=
  ((clauses_at_crash script hwf k).publish_atomic i ids target hi).symm

theorem publish_durable (script : List CReq) (hwf : wellFormed script = true) (k i : Nat) (ids : List String) (target : String)
    (hi : script[i]? = some (CReq.publish ids target)) (hresp : Ev.respond i ∈ (progs 0 script).take k) :
    ∀ id ∈ ids, count (recover ((progs 0 script).take k)) id target = 1 :=
  (clauses_at_crash script hwf k).publish_acked i ids target hi ((acked_iff _ _).2 hresp)

theorem no_duplicate (script : List CReq) (hwf : wellFormed script = true) (k : Nat) (key target : String) :
    count (recover ((progs 0 script).take k)) key target ≤ 1 :=
  (clauses_at_crash script hwf k).no_dup key target

theorem no_phantom (script : List CReq) (hwf : wellFormed script = true) (k : Nat) :
    ∀ m ∈ recover ((progs 0 script).take k), explained (sentAt script ((progs 0 script).take k)) m = true :=
  fun m hm => explained_sentAt _ ((clauses_at_crash script hwf k).explained m hm)

theorem lease_durable (script : List CReq) (hwf : wellFormed script = true) (k i : Nat) (op : LeaseKind) (key target : String)
    (hi : script[i]? = some (CReq.leaseOp op key target)) (hresp : Ev.respond i ∈ (progs 0 script).take k) :
    stOf (recover ((progs 0 script).take k)) key target = some op.result :=
  (clauses_at_crash script hwf k).lease_acked i op key target hi ((acked_iff _ _).2 hresp)

/-- a handler that answers 202 *before* storing: the variant the property must reject -/
def progBad (i : Nat) : CReq → List Ev
  | .ingress body targets => [.respond i] ++ (targets.flatMap fun t => [.begin, .put ⟨body, t, .queued⟩, .commit])
  | r => prog i r

def progsBad (start : Nat) : List CReq → List Ev
  | [] => []
  | r :: rest => progBad start r ++ progsBad (start + 1) rest

theorem respond_before_commit_violates :
    ∃ k, crashCheck (sentAt [.ingress "r" ["a"]] ((progsBad 0 [.ingress "r" ["a"]]).take k))
      (recover ((progsBad 0 [.ingress "r" ["a"]]).take k)) ≠ none :=
  ⟨1, by decide⟩

example : crashCheck (sentAt [.ingress "r" ["a"]] ((progsBad 0 [.ingress "r" ["a"]]).take 3))
    (recover ((progsBad 0 [.ingress "r" ["a"]]).take 3)) = some "acknowledged-ingress-message-lost-or-duplicated" :=
  rfl

/-- a publish handler with one transaction per item: the variant the atomicity clause must reject -/
def progSplit (i : Nat) : CReq → List Ev
  | .publish ids target => (ids.flatMap fun id => [.begin, .put ⟨id, target, .queued⟩, .commit]) ++ [.respond i]
  | r => prog i r

theorem split_publish_violates :
    crashCheck (sentAt [.publish ["x", "y"] "a"] ((progSplit 0 (.publish ["x", "y"] "a")).take 3))
      (recover ((progSplit 0 (.publish ["x", "y"] "a")).take 3)) = some "publish-batch-partially-stored" :=
  rfl

/-- `wellFormed` is not an idle hypothesis: the same body sent twice to the same target is stored twice -/
example : wellFormed [.ingress "r" ["a"], .ingress "r" ["a"]] = false ∧
    crashCheck (sentAt [.ingress "r" ["a"], .ingress "r" ["a"]] (progs 0 [.ingress "r" ["a"], .ingress "r" ["a"]]))
      (recover (progs 0 [.ingress "r" ["a"], .ingress "r" ["a"]])) = some "acknowledged-ingress-message-lost-or-duplicated" :=
  ⟨rfl, rfl⟩

def demo : List CReq :=
  [.ingress "r" ["a", "b"], .publish ["x", "y"] "a", .leaseOp .ack "r" "a", .leaseOp .nack "x" "a",
   .leaseOp .dead "r" "b", .publish [] "q", .ingress "z" []]

example : wellFormed demo = true := by decide
example : (progs 0 demo).length = 28 := rfl
-- by evaluation, not from `crash_safe`: this is the model computing what the theorem says
example : ∀ k < 30, crashCheck (sentAt demo ((progs 0 demo).take k)) (recover ((progs 0 demo).take k)) = none := by
  decide +kernel
example : recover (progs 0 demo) =
    [⟨"r", "a", .delivered⟩, ⟨"r", "b", .dead⟩, ⟨"x", "a", .queued⟩, ⟨"y", "a", .queued⟩] := by decide
/-- a crash inside the second ingress transaction: first target stored, second not, request unacknowledged -/
example : recover ((progs 0 demo).take 5) = [⟨"r", "a", .queued⟩] ∧ acked ((progs 0 demo).take 5) 0 = false := by decide

#print axioms crash_safe
#print axioms recover_char
#print axioms clauses_at_crash
#print axioms ack_durable
#print axioms publish_atomic
#print axioms publish_durable
#print axioms no_duplicate
#print axioms no_phantom
#print axioms lease_durable
#print axioms respond_before_commit_violates
#print axioms split_publish_violates

section Extracted
open Hk.Gen

/-- What `prog` rests on, read from the Go source on every run (`Generated/CrashOrder.lean`).
    `prog (.ingress …)` = one committed insert per target, then the response: the handler calls `Store.Enqueue` only inside
    one loop over the targets, a failed call leaves the handler, and its only 202 is written after that loop.
    `prog (.publish …)`: every `EnqueueBatch` failure leaves the handler before the success response.
    `commit` is durable and precedes success: WAL + synchronous=FULL, and every function opening a write transaction
    checks the result of `commitTx`. -/
theorem code_order_facts :
    ingressEnqueueLoops = 1 ∧ ingressLoopsLeavingOnError = 1 ∧ ingressEnqueueOutsideLoop = 0 ∧
    ingressAcceptedWrites = 1 ∧ ingressAcceptedAfterLoop = true ∧
    publishBatchCalls = publishBatchCallsLeavingOnError ∧ 0 < publishBatchCalls ∧
    sqliteJournalWAL = true ∧ sqliteSynchronousFull = true ∧
    sqliteTxFunctions = sqliteTxFunctionsCommitChecked ∧
    "enqueueWithLimit" ∈ sqliteTxFunctions ∧ "EnqueueBatch" ∈ sqliteTxFunctions ∧ "withLease" ∈ sqliteTxFunctions ∧
    "withLeaseBatch" ∈ sqliteTxFunctions := by decide +kernel

end Extracted

#print axioms code_order_facts

end Hk.Crash
