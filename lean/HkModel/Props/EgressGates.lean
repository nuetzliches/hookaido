/-
  The push delivery path as written (C16: "sends a request only to a URL the egress policy allows … every hop is checked the
  same way … deny rules win over allow rules … without any request being sent").

  `Model/Egress` and `Props/C16.lean` prove what the policy decides and that a delivery modelled as "check, then send" sends
  nothing when denied. That the code has that shape is checked here over `Generated/EgressGates.lean` — the source-order event
  sequences of `HTTPDeliverer.Deliver`, `checkRedirect` and `checkEgressPolicyURL`, regenerated on every run.
-/
import HkModel.Generated.EgressGates

namespace Hk.EgressGates

def eventsOf (fn : String) : List (String × String) :=
  match Gen.egressEvents.find? (·.1 == fn) with
  | some (_, es) => es
  | none => []

def calls (es : List (String × String)) : List String := (es.filter (·.1 == "call")).map (·.2)

/-- `Deliver`: the policy check is the first thing, its failure returns at once, and request construction, signing and the one
    `Client.Do` come after it in that order -/
theorem deliver_checks_policy_before_sending :
    calls (eventsOf "Deliver") = ["checkEgressPolicy", "NewRequestWithContext", "applyDeliverySigning", "Do"] ∧
    (eventsOf "Deliver").take 2 = [("call", "checkEgressPolicy"), ("return", "")] := by decide +kernel

/-- `checkRedirect`: at most ten hops, then every hop is checked by the same policy function before it is signed (and sent);
    the failure of the check returns at once -/
theorem redirect_hop_checked_before_signed :
    calls (eventsOf "checkRedirect") = ["checkEgressPolicyURL", "applyDeliverySigning"] ∧
    (eventsOf "checkRedirect").take 4 = [("if", "len(via) >= 10"), ("return", ""), ("call", "checkEgressPolicyURL"), ("return", "")] := by
  decide +kernel

def conds (es : List (String × String)) : List String := (es.filter (·.1 == "if")).map (·.2)

/-- `checkEgressPolicyURL`: https_only, then resolution, then the address classes (rebind protection), then the deny rules,
    then the allow list -/
theorem policy_conditions_in_order :
    conds (eventsOf "checkEgressPolicyURL") =
      ["policy.HTTPSOnly && strings.ToLower(u.Scheme) != \"https\"", "policy.DNSRebindProtection", "!isAllowedIP(ip)",
       "len(policy.Deny) > 0 && matchEgressRules(host, ips, policy.Deny)",
       "len(policy.Allow) > 0 && !matchEgressRules(host, ips, policy.Allow)"] ∧
    calls (eventsOf "checkEgressPolicyURL") = ["resolveHostIPs", "isAllowedIP", "matchEgressRules", "matchEgressRules"] := by decide +kernel

def denyBeforeAllowReturns (es : List (String × String)) : Bool :=
  match es.idxOf? ("if", "len(policy.Deny) > 0 && matchEgressRules(host, ips, policy.Deny)"),
        es.idxOf? ("if", "len(policy.Allow) > 0 && !matchEgressRules(host, ips, policy.Allow)") with
  | some i, some j => decide (i < j) && ((es.drop i).take (j - i)).contains ("return", "")
  | _, _ => false

theorem deny_rules_decide_before_allow_rules : denyBeforeAllowReturns (eventsOf "checkEgressPolicyURL") = true := by decide +kernel

example : denyBeforeAllowReturns [("if", "len(policy.Allow) > 0 && !matchEgressRules(host, ips, policy.Allow)"), ("return", ""),
    ("if", "len(policy.Deny) > 0 && matchEgressRules(host, ips, policy.Deny)"), ("return", "")] = false := by decide +kernel

end Hk.EgressGates
