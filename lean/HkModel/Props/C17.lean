import HkModel.Model.Signing
import HkModel.Props.C08
/-! C17 — HMAC signing and secret rotation windows; the inbound half is in Props/C08 (`validSecrets_versions`,
    `hmac_reject_out_of_window_secret`, `window_boundaries`), which the registry audits under C17 through this file's import. -/
namespace Hk.Signing

theorem better_irrefl (m : Mode) (x : SVersion) : better m x x = false := by
  unfold better
  cases m <;> simp

theorem better_trans (m : Mode) (a b c : SVersion) (h1 : better m a b = true) (h2 : better m b c = true) :
    better m a c = true := by
  unfold better at *
  cases m <;>
  · simp only [Bool.or_eq_true, decide_eq_true_eq, Bool.and_eq_true, beq_iff_eq] at *
    rcases h1 with h1 | ⟨h1, h1'⟩ <;> rcases h2 with h2 | ⟨h2, h2'⟩
    · left; omega
    · left; omega
    · left; omega
    · right; exact ⟨by omega, String.lt_trans h1' h2'⟩

theorem better_asymm (m : Mode) (a b : SVersion) (h : better m a b = true) : better m b a = false :=
  Bool.eq_false_iff.mpr fun hb => Bool.false_ne_true (better_irrefl m a ▸ better_trans m a b a h hb)

theorem better_total (m : Mode) (a b : SVersion) (hne : a.id ≠ b.id) : better m a b = true ∨ better m b a = true := by
  by_cases hf : fromOf a = fromOf b
  · -- a tie on `valid_from` goes to the smaller id
    rcases String.le_total a.id b.id with hl | hl
    · exact .inl (by simp [better, hf, String.not_le.mp fun hge => hne (String.le_antisymm hl hge)])
    · exact .inr (by simp [better, hf, String.not_le.mp fun hge => hne (String.le_antisymm hge hl)])
  · cases m <;> simp only [better, Bool.or_eq_true, decide_eq_true_eq] <;> omega

theorem selectFrom_append (m : Mode) (t : Int) (ws : List SVersion) :
    ∀ (vs : List SVersion) (cur : Option SVersion),
      selectFrom m t (vs ++ ws) cur = selectFrom m t ws (selectFrom m t vs cur) := by
  intro vs
  induction vs with
  | nil => exact fun _ => rfl
  | cons v rest ih =>
    intro cur
    simp only [List.cons_append, selectFrom]
    split
    · exact ih _
    · cases cur <;> exact ih _

/-- **The selected version is valid at signing time and extremal** under the configured rule (newest / oldest
    `valid_from`, ties by smaller id). -/
theorem selected_is_valid_and_extremal (m : Mode) (vs : List SVersion) (t : Int) :
    match select m vs t with
    | some r => r.validAt t = true ∧ r ∈ vs ∧ ∀ v ∈ vs, v.validAt t = true → better m v r = false
    | none => ∀ v ∈ vs, v.validAt t = false := by
  -- the statement is the loop invariant: induction on the versions read so far, last one first
  rw [← List.reverse_reverse vs]
  induction vs.reverse with
  | nil => exact nofun
  | cons x l ih =>
    rw [select] at ih
    rw [List.reverse_cons, select, selectFrom_append]
    generalize selectFrom m t l.reverse none = c at ih
    simp only [selectFrom, List.forall_mem_append, List.forall_mem_singleton]
    have hmem : x ∈ l.reverse ++ [x] := List.mem_append_right _ (List.mem_singleton_self x)
    cases hx : x.validAt t with
    | false =>
      cases c with
      | none => exact ⟨ih, rfl⟩
      | some r => exact ⟨ih.1, List.mem_append_left _ ih.2.1, ih.2.2, nofun⟩
    | true =>
      cases c with
      | none => exact ⟨hx, hmem, fun v hv h => absurd h (by simp [ih v hv]), fun _ => better_irrefl m x⟩
      | some s =>
        dsimp only
        cases hb : better m x s with
        | false =>
          exact ⟨ih.1, List.mem_append_left _ ih.2.1, ih.2.2, fun _ => hb⟩
        | true =>
          refine ⟨hx, hmem, fun v hv h => ?_, fun _ => better_irrefl m x⟩
          -- a valid `v` better than `x` would be better than the candidate `s` that `x` replaces
          exact Bool.eq_false_iff.mpr fun hvx => absurd (better_trans m v x s hvx hb) (by simp [ih.2.2 v hv h])

/-- The converse of `selected_is_valid_and_extremal`, which thus describes `select` completely: nothing valid, nothing selected. -/
theorem select_eq_none {m : Mode} {vs : List SVersion} {t : Int} (hall : ∀ v ∈ vs, v.validAt t = false) :
    select m vs t = none := by
  have h := selected_is_valid_and_extremal m vs t
  cases hs : select m vs t with
  | none => rfl
  | some r =>
    rw [hs] at h
    exact absurd h.1 (by simp [hall r h.2.1])

/-- …and with unique ids a valid extremal version is the one selected. -/
theorem select_eq_some {m : Mode} {vs : List SVersion} {t : Int} {r : SVersion}
    (hids : ∀ a ∈ vs, ∀ b ∈ vs, a.id = b.id → a = b) (hr : r.validAt t = true) (hmem : r ∈ vs)
    (hbest : ∀ v ∈ vs, v.validAt t = true → better m v r = false) : select m vs t = some r := by
  have h := selected_is_valid_and_extremal m vs t
  cases hs : select m vs t with
  | none =>
    rw [hs] at h
    exact absurd hr (by simp [h r hmem])
  | some s =>
    rw [hs] at h
    -- two extremal versions: with different ids one would be better than the other
    refine congrArg some (Decidable.byContradiction fun hne => ?_)
    rcases better_total m s r (fun hid => hne (hids s h.2.1 r hmem hid)) with hb | hb
    · exact absurd hb (by simp [hbest s h.2.1 h.1])
    · exact absurd hb (by simp [h.2.2 r hmem hr])

/-- **Selection does not depend on the order in which versions are listed**; `hids`: ids are unique in a compiled
    configuration. -/
theorem selection_deterministic (m : Mode) (vs ws : List SVersion) (t : Int)
    (hids : ∀ a ∈ vs, ∀ b ∈ vs, a.id = b.id → a = b) (hperm : ∀ v, v ∈ vs ↔ v ∈ ws) :
    select m vs t = select m ws t := by
  -- what `select m ws t` is said to be reads `ws` through membership alone, so it holds of `vs` as well
  have h := selected_is_valid_and_extremal m ws t
  cases hw : select m ws t with
  | none =>
    rw [hw] at h
    exact select_eq_none fun v hv => h v ((hperm v).mp hv)
  | some r =>
    rw [hw] at h
    exact select_eq_some hids h.1 ((hperm r).mpr h.2.1) fun v hv => h.2.2 v ((hperm v).mp hv)

/-- `valid_from` inclusive, `valid_until` exclusive -/
theorem window_boundaries (v : SVersion) (f u : Int) (hf : v.from_ = some f) (hu : v.until_ = some u) (hlt : f < u) :
    v.validAt f = true ∧ v.validAt u = false ∧ v.validAt (f - 1) = false ∧ v.validAt (u - 1) = true := by
  simp only [SVersion.validAt, hf, hu, Bool.and_eq_true, decide_eq_true_eq, Bool.and_eq_false_iff,
    decide_eq_false_iff_not]
  omega

/-- **Headers written**: the timestamp header is the signing time in unix seconds, the signature is
    `hex mac(secret, canonical)` over the body handed to the deliverer, under the selected version. -/
theorem headers_written (mac load) (m : Mode) (vs : List SVersion) (direct : String) (now : Int)
    (method path : String) (body : Bytes) (ts sig : String)
    (h : sign mac load m vs direct now method path body = some (ts, sig)) :
    ts = toString (now / 1000000000) ∧
    ∃ ref key, load ref = some key ∧ key ≠ [] ∧
      sig = Sha256.toHex (mac key (canonical method path (now / 1000000000) body)) ∧
      (vs = [] → ref = direct) ∧
      (vs ≠ [] → ∃ v, select m vs now = some v ∧ v.ref = ref ∧ v.validAt now = true) := by
  unfold sign at h
  simp only [Int.ediv_mul_add_emod] at h
  split at h
  · cases h
  rename_i r hr
  split at h
  · cases h
  rename_i key hl
  split at h
  · cases h
  rename_i hk
  cases h
  refine ⟨rfl, r, key, hl, fun hn => hk (by simp [hn]), rfl, fun hv => ?_, fun hv => ?_⟩
  · -- no versions: the direct reference
    rw [hv, List.isEmpty_nil, if_pos rfl] at hr
    split at hr
    · cases hr
    · exact (Option.some.inj hr).symm
  · -- versions: the selected one, which is valid
    rw [if_neg (by simpa using hv)] at hr
    have hsel := selected_is_valid_and_extremal m vs now
    split at hr
    · cases hr
    · rename_i v hs
      rw [hs] at hsel
      split at hr
      · cases hr
      · exact ⟨v, hs, Option.some.inj hr, hsel.1⟩

theorem none_valid_sends_nothing (mac load) (m : Mode) (vs : List SVersion) (direct : String) (now : Int)
    (method path : String) (body : Bytes) (hne : vs ≠ []) (h : ∀ v ∈ vs, v.validAt now = false) :
    sign mac load m vs direct now method path body = none := by
  simp [sign, Int.ediv_mul_add_emod, select_eq_none h, hne]

theorem unloadable_sends_nothing (mac) (load : String → Option Bytes) (m : Mode) (vs : List SVersion) (direct : String)
    (now : Int) (method path : String) (body : Bytes) (h : ∀ r, load r = none ∨ load r = some []) :
    sign mac load m vs direct now method path body = none := by
  cases hs : sign mac load m vs direct now method path body with
  | none => rfl
  | some x =>
    obtain ⟨_, ref, key, hl, hk, _⟩ := headers_written mac load m vs direct now method path body x.1 x.2 hs
    rcases h ref with h | h
    · cases hl.symm.trans h
    · exact absurd (Option.some.inj (hl.symm.trans h)) hk

def v1 : SVersion := { id := "a", ref := "raw:k1", from_ := some 100, until_ := some 200 }
def v2 : SVersion := { id := "b", ref := "raw:k2", from_ := some 150, until_ := none }
def v3 : SVersion := { id := "0", ref := "raw:k3", from_ := some 150, until_ := none }
example : (select .newest [v1, v2, v3] 160).map (·.id) = some "0" ∧ (select .oldest [v2, v3, v1] 160).map (·.id) = some "a" ∧
    select .newest [v1, v2] 99 = none ∧ (select .newest [v1, v2] 200).map (·.id) = some "b" := by decide

end Hk.Signing
