/-
C18 — which configuration changes are refused as "restart required": obligations over the facts regenerated from
internal/app/run.go (`requiresRestartForReload` and its `…Equal` helpers), internal/config and internal/dispatcher on every
run (`Generated/RestartCmp.lean`, go/ast).
-/
import HkModel.Generated.RestartCmp

namespace Hk.RestartCmp
open Hk.Gen.Restart

/-- every comparison sets the SAME expression of the configuration to be applied against the running one (no side is
    compared with itself, no two different settings are compared with each other) -/
def pairOK (p : String × String × String × String × String × String) : Bool :=
  let (b, x, a, b', x', a') := p
  b == b' && a == a' && [x, x'] == restartParams

theorem restart_compares_new_with_running : restartPairsSplit.all pairOK = true := by decide +kernel

/-- helpers that take whole configurations and delegate (their parameter type is not the record they compare) -/
def delegating : List String := ["dispatcherConfigEqual"]

def subset (xs ys : List String) : Bool := xs.all (fun x => ys.contains x)

/-- a helper over a record type reads the same fields on both sides, and reads EVERY field the type declares -/
def helperOK (h : String × String × Bool × List String × List String × List String × List String) : Bool :=
  let (name, _, known, fields, left, right, _) := h
  !known || delegating.contains name || (left == right && subset fields left)

theorem helpers_compare_every_field : helpers.all helperOK = true := by decide +kernel

/-- the documented restart-requiring settings (docs/configuration.md, "Changes that require a restart") -/
def expectedCompared : List String :=
  [".SharedListener", ".HasPullRoutes", ".HasDeliverRoutes", ".Ingress.Listen", ".Ingress.TLS", ".PullAPI.Prefix", ".AdminAPI.Prefix",
   ".PullAPI.Listen", ".PullAPI.GRPCListen", ".AdminAPI.Listen", ".PullAPI.MaxBatch", ".PullAPI.DefaultLeaseTTL", ".PullAPI.MaxLeaseTTL",
   ".PullAPI.DefaultMaxWait", ".PullAPI.MaxWait", ".PullAPI.TLS", ".AdminAPI.TLS", ".Defaults.MaxBodyBytes", ".Defaults.MaxHeaderBytes",
   ".Defaults.PublishPolicy", ".Observability", ".QueueLimits", ".QueueRetention", ".DeliveredRetention", ".DLQRetention"]

theorem documented_settings_compared :
    subset expectedCompared (restartPairsSplit.map (fun p => p.2.2.1)) = true ∧
    restartPairsSplit.any (fun p => p.1 == "queueBackendForCompiled(") = true ∧
    helpersCalled.contains "dispatcherConfigEqual" = true := by decide +kernel

def reach (fuel : Nat) (names : List String) : List String :=
  match fuel with
  | 0 => names
  | fuel + 1 =>
    let next := names ++ ((helpers.filter (fun h => names.contains h.1)).map (fun h => h.2.2.2.2.2.2)).flatten
    reach fuel next.eraseDups

/-- `dispatcherConfigEqual` reaches a helper for every record the dispatcher is built from -/
theorem dispatcher_helpers_reached :
    subset ["egressPolicyEqual", "egressRulesEqual", "dispatchRoutesEqual", "dispatchTargetsEqual", "retryConfigEqual",
            "hmacSigningConfigEqual", "hmacSigningSecretVersionsEqual"] (reach 6 ["dispatcherConfigEqual"]) = true := by decide +kernel

/-- `buildDispatchRoutes` fills every field those records declare, so that a field which is compared is also one that
    exists in what is compared -/
theorem dispatcher_config_fully_built : dispatcherFieldsDeclared = dispatcherFieldsBuilt ∧ 15 ≤ dispatcherFieldsDeclared.length :=
  ⟨rfl, by decide +kernel⟩

end Hk.RestartCmp
