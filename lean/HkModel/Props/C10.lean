import HkModel.Model.Route
/-! C10 — ingress route resolution and channel isolation. -/
namespace Hk.Route
open Hk.Egress (IP)

theorem resolve_eq_none_iff (routes : List RouteCfg) (rq : Req) :
    resolve routes rq = none ↔ ∀ r ∈ routes, routeMatches r rq = false := by
  simp [resolve]

/-- **First matching inbound route**, in configuration order. -/
theorem resolve_first_match (routes : List RouteCfg) (rq : Req) :
    match resolve routes rq with
    | some rt => rt.channel.servesIngress = true ∧ matchesButMethod rt rq = true ∧ matchMethods rq.method rt.methods = true ∧
        ∃ pre post, routes = pre ++ rt :: post ∧ ∀ r ∈ pre, routeMatches r rq = false
    | none => ∀ r ∈ routes, routeMatches r rq = false := by
  cases h : resolve routes rq with
  | none => exact (resolve_eq_none_iff routes rq).mp h
  | some rt =>
    obtain ⟨hm, pre, post, heq, hpre⟩ := List.find?_eq_some_iff_append.mp h
    simp only [routeMatches, Bool.and_eq_true] at hm
    exact ⟨hm.1.1, hm.1.2, hm.2, pre, post, heq, fun r hr => by simpa using hpre r hr⟩

/-- **Channel isolation**: routes declared outbound or internal are never reachable from ingress. -/
theorem non_inbound_unreachable (routes : List RouteCfg) (rq : Req) (rt : RouteCfg)
    (h : resolve routes rq = some rt) : rt.channel ≠ .outbound ∧ rt.channel ≠ .internal := by
  have hs : rt.channel.servesIngress = true := by
    have := resolve_first_match routes rq
    rw [h] at this
    exact this.1
  constructor <;> intro hc <;> rw [hc] at hs <;> cases hs

/-- the 405 `Allow` list never advertises a method of a non-inbound route alone -/
theorem allowed_only_inbound (routes : List RouteCfg) (rq : Req)
    (h : ∀ r ∈ routes, r.channel.servesIngress = true → matchesButMethod r rq = false) :
    allowedMethods routes rq = [] := by
  have : routes.filter (fun rt => rt.channel.servesIngress && matchesButMethod rt rq) = [] :=
    List.filter_eq_nil_iff.mpr fun r hr hc => by
      rw [Bool.and_eq_true] at hc
      rw [h r hr hc.1] at hc
      cases hc.2
  rw [allowedMethods, this]
  rfl

/-- 404 or 405, never a route; `IngressAuth.flow` with `routed = false` then enqueues nothing -/
theorem no_match_404_405 (routes : List RouteCfg) (rq : Req) (h : ∀ r ∈ routes, routeMatches r rq = false) :
    outcome routes rq = .notFound ∨ ∃ a, a ≠ [] ∧ outcome routes rq = .methodNotAllowed a := by
  rw [outcome, (resolve_eq_none_iff routes rq).mpr h]
  simp only
  split
  · exact .inl rfl
  · rename_i he
    exact .inr ⟨_, fun hh => he (by rw [hh]; rfl), rfl⟩

theorem matchPath_iff (req route : String) (hr : route ≠ "") (hs : route ≠ "/") :
    matchPath req route = true ↔
      req = route ∨ (isPrefixOf route.toList req.toList = true ∧ req.length > route.length ∧
        req.toList.getD route.length ' ' = '/') := by
  simp [matchPath, hr, hs, and_assoc]

theorem matchPath_root (req : String) : matchPath req "/" = true := by simp [matchPath]

/-- `hne` excludes the request host that literally reads `*.d`: that one the exact-match disjunct
    (`reqHost == h`) of `matchHostPattern` accepts -/
theorem host_wildcard_subdomain_only (reqHost d : String) (hd : d ≠ "") (hne : ("*." ++ d) ≠ reqHost) :
    matchHostPattern reqHost ("*." ++ d) = true ↔
      reqHost ≠ d ∧ Hk.Egress.endsWith reqHost.toList ('.' :: d.toList) = true := by
  have h1 : ("*." ++ d) ≠ "*" := fun h => by simpa using congrArg String.toList h
  have h3 : ∀ l, isPrefixOf ['*', '.'] ('*' :: '.' :: l) = true := fun l => by simp [isPrefixOf]
  simp [matchHostPattern, h1, Ne.symm hne, h3, String.toList_inj, hd]

theorem matchMethods_default (m : String) : matchMethods m [] = true ↔ m = "POST" := by
  unfold matchMethods
  by_cases h : m = "" <;> simp [h]

def demoReq : Req := { path := "/jobs", method := "POST", host := "example.com", headers := [], query := [], remote := none }

/-- finding 6: a resolver that never consults the channel returns an outbound route (which may declare no auth) for a
    plain POST -/
theorem pinned_outbound_reachable :
    (resolvePinned [{ channel := .outbound, path := "/jobs" }] demoReq).isSome = true ∧
    resolve [{ channel := .outbound, path := "/jobs" }] demoReq = none := by decide +kernel

/-- finding 7: with the dot trimmed only before the port is split off, `example.com.:8080` keeps its dot and no longer
    equals `example.com` -/
theorem pinned_dot_port :
    normalizeHostPinned "example.com.:8080" = "example.com." ∧ normalizeHost "example.com.:8080" = "example.com" ∧
    normalizeHost "Example.COM:8080." = "example.com" ∧ normalizeHost "example.com." = "example.com" := by decide +kernel

example : (resolve [{ channel := .internal, path := "/a" }, { path := "/a", hosts := ["*.example.com"] }, { path := "/" }]
    { demoReq with path := "/a/b", host := "API.Example.com:443" }).map (·.hosts) = some ["*.example.com"] := by decide +kernel
example : outcome [{ path := "/a", methods := ["PUT"] }] { demoReq with path := "/a" } = .methodNotAllowed ["PUT"] := by decide +kernel

end Hk.Route
