import HkModel.Proofs.InvStep
import HkModel.Model.SplitFilter
/-!
  The by-filter operator mutations **as SQLite implements them**: two steps that are NOT one transaction —
  `selectMessageIDsByFilter` in some state `q0`, then the by-ids operation of the same kind in whatever state `q` the
  store is in by then (that shape is an obligation over regenerated facts: `Props/SqliteTx.lean`,
  `by_filter_acts_through_the_checked_operation`). The queue model's `.byFilter` step is the atomic version (`q0 = q`).
  These theorems say what survives when other requests are served in between — for EVERY pair of states `q0`, `q`, i.e.
  whatever those requests did; the `hkharness concx` scenario *interposed* demands the same of the implementation.
-/
namespace Hk
namespace SplitFilter
open Hk.Obs

def after (now : Int) (k : IdKind) (f : Filter) (q0 q : Q) (m : Msg) : Option Msg :=
  find (splitByFilter now k f q0 q).1.msgs m.id

theorem after_eq {now : Int} {k : IdKind} {f : Filter} {q0 q : Q} (hinv : Inv q) {m : Msg} (hm : m ∈ q.msgs) :
    after now k f q0 q m = opf now k (selectFilter k f q0.msgs) m := by
  show find (applyIds now k (selectFilter k f q0.msgs) q.msgs) m.id = _
  exact find_filterMap hinv.nodup (opf_id now k _) hm

/-- **C14 "only from the states the operation is defined for"**, judged when it acts, not when it selects -/
theorem untouched_outside_allowed_states {now : Int} {k : IdKind} {f : Filter} {q0 q : Q} (hinv : Inv q)
    {m : Msg} (hm : m ∈ q.msgs) (hst : (allowedStates k).contains m.st = false) :
    after now k f q0 q m = some m := by
  rw [after_eq hinv hm, opf, selectedBy, hst, Bool.and_false]
  rfl

theorem untouched_when_not_selected {now : Int} {k : IdKind} {f : Filter} {q0 q : Q} (hinv : Inv q)
    {m : Msg} (hm : m ∈ q.msgs) (hsel : (selectFilter k f q0.msgs).contains m.id = false) :
    after now k f q0 q m = some m := by
  rw [after_eq hinv hm, opf, selectedBy, hsel, Bool.false_and]
  rfl

/-- **C05 across an overlapping requeue / resume**: a message that is `queued` when the second step runs — e.g. because it was
    requeued by somebody else, leased and nacked with a delay in between — keeps its due time (and everything else) -/
theorem nack_delay_survives_overlapping_requeue {now : Int} {k : IdKind} {f : Filter} {q0 q : Q} (hinv : Inv q)
    {m : Msg} (hm : m ∈ q.msgs) (hq : m.st = .queued) (hk : k ≠ .cancel) :
    after now k f q0 q m = some m :=
  untouched_outside_allowed_states hinv hm (by rw [hq]; cases k <;> first | rfl | exact absurd rfl hk)

/-- **C03 across an overlapping requeue / resume**: a lease granted in between is still held afterwards -/
theorem lease_survives_overlapping_requeue {now : Int} {k : IdKind} {f : Filter} {q0 q : Q} (hinv : Inv q)
    {m : Msg} (hm : m ∈ q.msgs) (hl : m.st = .leased) (hk : k ≠ .cancel) :
    after now k f q0 q m = some m :=
  untouched_outside_allowed_states hinv hm (by rw [hl]; cases k <;> first | rfl | exact absurd rfl hk)

theorem delivered_never_revived {now : Int} {k : IdKind} {f : Filter} {q0 q : Q} (hinv : Inv q)
    {m : Msg} (hm : m ∈ q.msgs) (hd : m.st = .delivered) :
    after now k f q0 q m = some m :=
  untouched_outside_allowed_states hinv hm (by rw [hd]; cases k <;> rfl)

theorem changed_only_as_defined {now : Int} {k : IdKind} {f : Filter} {q0 q : Q} (hinv : Inv q)
    {m : Msg} (hm : m ∈ q.msgs) (hch : after now k f q0 q m ≠ some m) :
    (selectFilter k f q0.msgs).contains m.id = true ∧ (allowedStates k).contains m.st = true ∧
      after now k f q0 q m = operate now k m := by
  rw [after_eq hinv hm] at hch ⊢
  unfold opf at hch ⊢
  by_cases hs : selectedBy k (selectFilter k f q0.msgs) m = true
  · rw [if_pos hs]
    simp only [selectedBy, Bool.and_eq_true] at hs
    exact ⟨hs.1, hs.2, rfl⟩
  · rw [if_neg hs] at hch
    exact absurd rfl hch

theorem nothing_created {now : Int} {k : IdKind} {f : Filter} {q0 q : Q} (hinv : Inv q)
    {m' : Msg} (hm' : m' ∈ (splitByFilter now k f q0 q).1.msgs) : (find q.msgs m'.id).isSome = true := by
  exact find_isSome_of_mem_filterMap hinv.nodup (opf_id now k _) hm'

theorem quiet_split_is_atomic (c : Cfg) (now : Int) (k : IdKind) (f : Filter) (q : Q) (ch : Choice)
    (hp : f.preview = false) :
    step c now q (.byFilter k f) ch =
      some ((splitByFilter now k f q q).1, .count (selectFilter k f q.msgs).length (selectFilter k f q.msgs).length false) := by
  simp [step, hp, splitByFilter]

private def demoMsg (st : St) (next : Int) : Msg :=
  { id := "ip-0", route := "/p", target := "pull", st := st, recv := 10, next := next, attempt := 1, payload := "x",
    headers := "", trace := "", reason := "", lease := "", luntil := 0 }

/-- the store when the second step runs: the message was requeued by somebody else, leased and nacked with one hour meanwhile -/
private def demoQ : Q := { msgs := [demoMsg .queued 3_600_000_000_100] }

private theorem demoInv : Inv demoQ := by
  constructor <;> simp [demoQ, demoMsg]

example : selectFilter .requeue { route := "/p", state := "dead" } [demoMsg .dead 0] = ["ip-0"] := by decide +kernel

example :
    after 200 .requeue { route := "/p", state := "dead" } { msgs := [demoMsg .dead 0] } demoQ (demoMsg .queued 3_600_000_000_100) =
      some (demoMsg .queued 3_600_000_000_100) :=
  nack_delay_survives_overlapping_requeue demoInv (by simp [demoQ]) rfl (by decide)

/-- a message that is still dead when the second step runs is requeued: the operation is not vacuous -/
example :
    after 200 .requeue { route := "/p", state := "dead" } { msgs := [demoMsg .dead 0] } { msgs := [demoMsg .dead 0] } (demoMsg .dead 0) =
      some (demoMsg .queued 200) := by decide +kernel

end SplitFilter
end Hk
