import HkModel.Model.IngressReload
import HkModel.Props.C08
/-! C09 — replay protection across configuration reloads that change the tolerance. -/
namespace Hk.IngressAuth
open Hk.Egress (trimWS)

variable (mac : Bytes → Bytes → Bytes)

theorem signedAt_of_timeOK (cfg : HmacCfg) (now : Int) (rq : HReq) (t : Int) (h : timeOK cfg now rq = some t) :
    signedAt rq = some t := by
  obtain ⟨_, ⟨n, hp, rfl⟩, _⟩ := timeOK_some cfg now rq t h
  simp [signedAt, hp]

theorem verifyR_cases (cfg : HmacCfg) (s : AuthState) (now : Int) (rq : HReq) :
    verifyR mac cfg s now rq = (s, false) ∨
    ∃ t, timeOK { cfg with tol := s.tol } now rq = some t ∧ belowFloor s t = false ∧
      verifyR mac cfg s now rq =
        ({ s with cache := (seenOnce s.cache now (trimWS rq.nonce) (t + s.tol)).1 },
         (seenOnce s.cache now (trimWS rq.nonce) (t + s.tol)).2 && sigOK mac { cfg with tol := s.tol } t rq) := by
  unfold verifyR
  cases timeOK { cfg with tol := s.tol } now rq with
  | none => exact .inl rfl
  | some t =>
    dsimp only
    cases hb : belowFloor s t with
    | true => exact .inl (if_pos rfl)
    | false => exact .inr ⟨t, rfl, hb, if_neg Bool.false_ne_true⟩

theorem verifyR_keeps (cfg : HmacCfg) (s : AuthState) (now : Int) (rq : HReq) :
    (verifyR mac cfg s now rq).1.tol = s.tol ∧ (verifyR mac cfg s now rq).1.floor = s.floor ∧
    ∀ e ∈ s.cache, now ≤ e.2 → e ∈ (verifyR mac cfg s now rq).1.cache := by
  rcases verifyR_cases mac cfg s now rq with hv | ⟨t, _, _, hv⟩ <;> rw [hv]
  · exact ⟨rfl, rfl, fun _ he _ => he⟩
  · exact ⟨rfl, rfl, fun e he hl => seenOnce_keeps_live s.cache now _ _ e he hl⟩

theorem floor_rejects (cfg : HmacCfg) (s : AuthState) (now : Int) (rq : HReq) (t : Int)
    (h : timeOK { cfg with tol := s.tol } now rq = some t) (hb : belowFloor s t = true) :
    (verifyR mac cfg s now rq).2 = false := by
  unfold verifyR
  rw [h]
  dsimp only
  rw [if_pos hb]

theorem reload_lower_keeps_everything (s : AuthState) (now tol' : Int) (h : tol' ≤ s.tol) :
    reloadR s now tol' = { s with tol := tol' } :=
  if_neg (Int.not_lt.mpr h)

theorem reload_raise_sets_floor (s : AuthState) (now tol' : Int) (h : s.tol < tol') :
    (reloadR s now tol').tol = tol' ∧
    (reloadR s now tol').cache = s.cache.map (fun e => (e.1, e.2 + (tol' - s.tol))) ∧
    ∃ f, (reloadR s now tol').floor = some f ∧ now - s.tol ≤ f ∧ ∀ g, s.floor = some g → g ≤ f := by
  unfold reloadR
  rw [if_pos h]
  refine ⟨rfl, rfl, _, rfl, ?_⟩
  cases s.floor with
  | none => exact ⟨Int.le_refl _, nofun⟩
  | some f0 => exact ⟨Int.le_max_right .., fun g hg => Option.some.inj hg ▸ Int.le_max_left ..⟩

/-- The invariant of a history: once accepted, the pair `(N, ts)` of nonce and signed time is shut out in state `s`
    for every arrival time `≥ t` — a live cache entry covers `ts + tol`, or the window has already closed under the
    tolerance in force, or `ts` lies below the floor. -/
structure Shut (N : String) (ts : Int) (s : AuthState) (t : Int) : Prop where
  pos : 0 < s.tol
  why : (∃ e ∈ s.cache, e.1 = N ∧ ts + s.tol ≤ e.2) ∨ ts + s.tol < t ∨ (∃ f, s.floor = some f ∧ ts < f)

theorem shut_rejects (cfg : HmacCfg) (N : String) (ts : Int) (s : AuthState) (t now : Int) (rq : HReq)
    (h : Shut N ts s t) (hnow : t ≤ now) (hN : trimWS rq.nonce = N) (hts : signedAt rq = some ts) :
    (verifyR mac cfg s now rq).2 = false := by
  rcases verifyR_cases mac cfg s now rq with hv | ⟨t', ht, hb, hv⟩ <;> rw [hv]
  cases (signedAt_of_timeOK _ now rq t' ht).symm.trans hts
  have hwin : _ ∧ now - ts ≤ s.tol := (timeOK_some _ now rq ts ht).2.2 h.pos
  rcases h.why with ⟨e, he, he1, he2⟩ | hB | ⟨f, hf, hlt⟩
  · rw [seenOnce_rejects_live _ now _ _ ⟨e, he, he1.trans hN.symm, by omega⟩, Bool.false_and]
  · omega
  · simp [belowFloor, hf, hlt] at hb

theorem shut_verify (cfg : HmacCfg) (N : String) (ts : Int) (s : AuthState) (t now : Int) (rq : HReq)
    (h : Shut N ts s t) (hnow : t ≤ now) : Shut N ts (verifyR mac cfg s now rq).1 now := by
  obtain ⟨htol, hfloor, hkeep⟩ := verifyR_keeps mac cfg s now rq
  refine ⟨by rw [htol]; exact h.pos, ?_⟩
  rw [htol, hfloor]
  rcases h.why with ⟨e, he, he1, he2⟩ | hB | hC
  · by_cases hl : now ≤ e.2
    · exact .inl ⟨e, hkeep e he hl, he1, he2⟩
    · exact .inr (.inl (by omega))
  · exact .inr (.inl (by omega))
  · exact .inr (.inr hC)

theorem shut_reload (N : String) (ts : Int) (s : AuthState) (t now tol' : Int)
    (h : Shut N ts s t) (hnow : t ≤ now) (hpos : 0 < tol') : Shut N ts (reloadR s now tol') now := by
  by_cases hle : tol' ≤ s.tol
  · rw [reload_lower_keeps_everything s now tol' hle]
    refine ⟨hpos, ?_⟩
    dsimp only
    rcases h.why with ⟨e, he, he1, he2⟩ | hB | hC
    · exact .inl ⟨e, he, he1, by omega⟩
    · exact .inr (.inl (by omega))
    · exact .inr (.inr hC)
  · obtain ⟨h1, h3, f, h4, h5, h6⟩ := reload_raise_sets_floor s now tol' (Int.not_le.mp hle)
    refine ⟨by rw [h1]; exact hpos, ?_⟩
    rw [h1, h3, h4]
    rcases h.why with ⟨e, he, he1, he2⟩ | hB | ⟨g, hg, hgl⟩
    · exact .inl ⟨(e.1, e.2 + (tol' - s.tol)), List.mem_map.mpr ⟨e, he, rfl⟩, he1, by omega⟩
    · exact .inr (.inr ⟨f, rfl, by omega⟩)
    -- the previous floor still binds: this is why `reloadR` takes the maximum
    · exact .inr (.inr ⟨f, rfl, by have := h6 g hg; omega⟩)

theorem accepted_shut (cfg : HmacCfg) (s : AuthState) (now : Int) (rq : HReq) (hpos : 0 < s.tol)
    (h : (verifyR mac cfg s now rq).2 = true) :
    ∃ ts, signedAt rq = some ts ∧ Shut (trimWS rq.nonce) ts (verifyR mac cfg s now rq).1 now := by
  rcases verifyR_cases mac cfg s now rq with hv | ⟨t, ht, _, hv⟩ <;> rw [hv] at h ⊢
  · cases h
  · rw [Bool.and_eq_true] at h
    exact ⟨t, signedAt_of_timeOK _ now rq t ht, hpos,
      .inl ⟨_, (mem_seenOnce ..).mpr (.inr ⟨h.1, rfl⟩), rfl, Int.le_refl _⟩⟩

theorem runR_cons (cfg : HmacCfg) (s : AuthState) (e : REv) (rest : List REv) :
    runR mac cfg s (e :: rest) = (e, (stepR mac cfg s e).2) :: runR mac cfg (stepR mac cfg s e).1 rest := rfl

theorem stepR_pos (cfg : HmacCfg) (s : AuthState) (e : REv) (rest : List REv) (hpos : 0 < s.tol)
    (htp : TolPos (e :: rest)) : 0 < (stepR mac cfg s e).1.tol ∧ TolPos rest := by
  cases e with
  | request now rq => rw [stepR, (verifyR_keeps mac cfg s now rq).1]; exact ⟨hpos, htp⟩
  | reload now tol' =>
    rw [stepR]
    exact ⟨by unfold reloadR; split <;> exact htp.1, htp.2⟩

theorem shut_step (cfg : HmacCfg) {N : String} {ts : Int} {s : AuthState} {t : Int} {e : REv} {rest : List REv}
    (h : Shut N ts s t) (hnow : t ≤ e.now) (htp : TolPos (e :: rest)) : Shut N ts (stepR mac cfg s e).1 e.now := by
  cases e with
  | request now rq => exact shut_verify mac cfg N ts s t now rq h hnow
  | reload now tol' => exact shut_reload N ts s t now tol' h hnow htp.1

theorem shut_run (cfg : HmacCfg) (N : String) (ts : Int) :
    ∀ (evs : List REv) (s : AuthState) (t : Int), Shut N ts s t → MonoR t evs → TolPos evs →
      ∀ n rq, (REv.request n rq, true) ∈ runR mac cfg s evs → trimWS rq.nonce = N → signedAt rq ≠ some ts := by
  intro evs
  induction evs with
  | nil => intro _ _ _ _ _ _ _ hp; cases hp
  | cons e rest ih =>
    intro s t hsh ⟨hnow, hmono⟩ htp n rq hp hN hts
    rw [runR_cons, List.mem_cons] at hp
    rcases hp with hp | hp
    · obtain ⟨rfl, hok⟩ := Prod.mk.inj hp
      rw [stepR, shut_rejects mac cfg N ts s t n rq hsh hnow hN hts] at hok
      cases hok
    · exact ih _ e.now (shut_step mac cfg hsh hnow htp) hmono (stepR_pos mac cfg s e rest hsh.pos htp).2 n rq hp hN hts

/-- `captured_request_never_accepted_twice` from any state with a positive tolerance, fresh or not -/
theorem never_accepted_twice_from (cfg : HmacCfg) :
    ∀ (evs : List REv) (s : AuthState) (t0 : Int), 0 < s.tol → MonoR t0 evs → TolPos evs →
      ∀ (i j : Nat), i < j → ∀ n1 rq1 n2 rq2,
        (runR mac cfg s evs)[i]? = some (REv.request n1 rq1, true) →
        (runR mac cfg s evs)[j]? = some (REv.request n2 rq2, true) →
        trimWS rq1.nonce = trimWS rq2.nonce → signedAt rq1 = signedAt rq2 → False := by
  intro evs
  induction evs with
  | nil => intro _ _ _ _ _ i j _ n1 rq1 _ _ h1; cases h1
  | cons e rest ih =>
    intro s t0 hpos hmono htp i j hij n1 rq1 n2 rq2 h1 h2 hN hT
    obtain ⟨hpos', htp'⟩ := stepR_pos mac cfg s e rest hpos htp
    obtain ⟨j, rfl⟩ : ∃ j', j = j' + 1 := ⟨j - 1, by omega⟩
    rw [runR_cons, List.getElem?_cons_succ] at h2
    cases i with
    | zero =>
      rw [runR_cons, List.getElem?_cons_zero] at h1
      obtain ⟨rfl, hok⟩ := Prod.mk.inj (Option.some.inj h1)
      rw [stepR] at hok h2
      obtain ⟨ts, hts, hsh⟩ := accepted_shut mac cfg s n1 rq1 hpos hok
      exact shut_run mac cfg _ ts rest _ n1 hsh hmono.2 htp' n2 rq2 (List.mem_of_getElem? h2) hN.symm
        (hT.symm.trans hts)
    | succ i =>
      rw [runR_cons, List.getElem?_cons_succ] at h1
      exact ih _ e.now hpos' hmono.2 htp' i j (by omega) n1 rq1 n2 rq2 h1 h2 hN hT

/-- **A captured request is never accepted twice, whatever reloads happen**: in every history of one route's
    authenticator — any interleaving of requests (valid, invalid, duplicates, other nonces) and of reloads that raise
    or lower the tolerance, arbitrarily often — with a clock that never goes back. -/
theorem captured_request_never_accepted_twice (cfg : HmacCfg) (s0 : AuthState) (evs : List REv) (t0 : Int)
    (_hfresh : s0.cache = [] ∧ s0.floor = none) (htol : 0 < s0.tol)
    (hmono : MonoR t0 evs) (hpos : TolPos evs) :
    ∀ i j (hi : i < (runR mac cfg s0 evs).length) (hj : j < (runR mac cfg s0 evs).length), i < j →
      ∀ n1 rq1 n2 rq2, (runR mac cfg s0 evs)[i] = (REv.request n1 rq1, true) →
        (runR mac cfg s0 evs)[j] = (REv.request n2 rq2, true) →
        trimWS rq1.nonce = trimWS rq2.nonce → signedAt rq1 = signedAt rq2 → False := by
  intro i j hi hj hij n1 rq1 n2 rq2 h1 h2 hN hT
  exact never_accepted_twice_from mac cfg evs s0 t0 htol hmono hpos i j hij n1 rq1 n2 rq2
    (by rw [List.getElem?_eq_getElem hi, h1]) (by rw [List.getElem?_eq_getElem hj, h2]) hN hT

theorem verbatim_replay_never_accepted (cfg : HmacCfg) (s0 : AuthState) (evs : List REv) (t0 : Int)
    (htol : 0 < s0.tol) (hmono : MonoR t0 evs) (hpos : TolPos evs) (i j : Nat) (hij : i < j) (n1 n2 : Int) (rq : HReq)
    (h1 : (runR mac cfg s0 evs)[i]? = some (REv.request n1 rq, true)) :
    (runR mac cfg s0 evs)[j]? ≠ some (REv.request n2 rq, true) := by
  intro h2
  exact never_accepted_twice_from mac cfg evs s0 t0 htol hmono hpos i j hij n1 rq n2 rq h1 h2 rfl rfl

def stepRPinned (mac : Bytes → Bytes → Bytes) (cfg : HmacCfg) (s : AuthState) : REv → AuthState × Bool
  | .request now rq => verifyR mac cfg s now rq
  | .reload now tol' => (reloadRPinned s now tol', false)

def runRPinned (mac : Bytes → Bytes → Bytes) (cfg : HmacCfg) : AuthState → List REv → List (REv × Bool)
  | _, [] => []
  | s, e :: rest => let (s', ok) := stepRPinned mac cfg s e; (e, ok) :: runRPinned mac cfg s' rest

def wMac : Bytes → Bytes → Bytes := fun _ _ => [1]
def wCfg : HmacCfg := { tol := 60000000000, direct := [[7]] }
def wS0 : AuthState := { tol := 60000000000 }
def wCaptured : HReq :=
  { sig := "01", ts := "1000", nonce := "n-captured", method := "POST", path := "/hook", body := [] }
def wOther : HReq :=
  { sig := "01", ts := "1061", nonce := "n-other", method := "POST", path := "/hook", body := [] }
/-- accepted at its signed time; 61 s later an unrelated request purges the closed window; a reload raises the
    tolerance from 60 s to 300 s; the captured request is replayed 62 s after it was signed -/
def wHistory : List REv :=
  [ .request 1000000000000 wCaptured,
    .request 1061000000000 wOther,
    .reload  1061500000000 300000000000,
    .request 1062000000000 wCaptured ]

/-- the verdicts on the witness history without the floor, computed once -/
theorem runRPinned_wHistory : runRPinned wMac wCfg wS0 wHistory = wHistory.zip [true, true, false, true] := by rfl

theorem runR_wHistory : runR wMac wCfg wS0 wHistory = wHistory.zip [true, true, false, false] := by rfl

/-- finding 17: without the floor the replay is accepted (positions 0 and 3 are the same request) -/
theorem pinned_raise_readmits :
    (runRPinned wMac wCfg wS0 wHistory).map (·.2) = [true, true, false, true] := by
  rw [runRPinned_wHistory]; rfl

theorem floor_refuses_after_raise :
    (runR wMac wCfg wS0 wHistory).map (·.2) = [true, true, false, false] := by
  rw [runR_wHistory]; rfl

/-- without the floor the history has exactly the shape `captured_request_never_accepted_twice` excludes -/
example : ∃ n1 n2, (runRPinned wMac wCfg wS0 wHistory)[0]? = some (REv.request n1 wCaptured, true) ∧
    (runRPinned wMac wCfg wS0 wHistory)[3]? = some (REv.request n2 wCaptured, true) := by
  rw [runRPinned_wHistory]; exact ⟨_, _, rfl, rfl⟩

/-- the hypotheses of `captured_request_never_accepted_twice` hold for the witness history -/
example : (wS0.cache = [] ∧ wS0.floor = none) ∧ 0 < wS0.tol ∧ MonoR 0 wHistory ∧ TolPos wHistory ∧
    (∃ n, (runR wMac wCfg wS0 wHistory)[0]? = some (REv.request n wCaptured, true)) ∧
    (∃ n, (runR wMac wCfg wS0 wHistory)[3]? = some (REv.request n wCaptured, false)) := by
  rw [runR_wHistory]
  refine ⟨⟨rfl, rfl⟩, by decide, ?_, ?_, ⟨_, rfl⟩, ⟨_, rfl⟩⟩
  · simp [wHistory, MonoR, REv.now]
  · simp [wHistory, TolPos]

/-- lowering and raising again: 60 s → 10 s → 300 s, replay still refused -/
example : (runR wMac wCfg wS0
    [ .request 1000000000000 wCaptured, .reload 1005000000000 10000000000, .request 1011000000000 wOther,
      .reload 1012000000000 300000000000, .request 1013000000000 wCaptured ]).map (·.2)
    = [true, false, false, false, false] := by decide +kernel

end Hk.IngressAuth

#print axioms Hk.IngressAuth.timeOK_some
#print axioms Hk.IngressAuth.floor_rejects
#print axioms Hk.IngressAuth.reload_lower_keeps_everything
#print axioms Hk.IngressAuth.reload_raise_sets_floor
#print axioms Hk.IngressAuth.shut_rejects
#print axioms Hk.IngressAuth.shut_verify
#print axioms Hk.IngressAuth.shut_reload
#print axioms Hk.IngressAuth.accepted_shut
#print axioms Hk.IngressAuth.stepR_pos
#print axioms Hk.IngressAuth.shut_run
#print axioms Hk.IngressAuth.never_accepted_twice_from
#print axioms Hk.IngressAuth.captured_request_never_accepted_twice
#print axioms Hk.IngressAuth.verbatim_replay_never_accepted
#print axioms Hk.IngressAuth.pinned_raise_readmits
#print axioms Hk.IngressAuth.floor_refuses_after_raise
