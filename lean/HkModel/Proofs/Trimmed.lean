import HkModel.Proofs.InvStep
/-!
  Lease ids stored in the queue never carry surrounding white space, provided the lease ids the
  implementation generates (`Choice.picks`) do not: a step only ever clears a lease id, keeps it, or stores a
  generated one. Nothing else is assumed of the state (neither `Inv` nor a non-negative batch extension): for
  every step but a dequeue this is read off `step_noLease`.
-/
namespace Hk

/-- every stored lease id is free of surrounding whitespace -/
def Trimmed (q : Q) : Prop := ∀ m ∈ q.msgs, trimWS m.lease = m.lease
/-- the implementation's generated lease ids carry no surrounding whitespace -/
def ChWF (ch : Choice) : Prop := ∀ p ∈ ch.picks, trimWS p.2 = p.2

theorem trimmed_init : Trimmed {} := by
  intro m hm; cases hm

theorem Kept.trimmed {mono : Prop} {ms : List Msg} {y : Msg} (h : Kept mono ms y)
    (ht : ∀ m ∈ ms, trimWS m.lease = m.lease) : trimWS y.lease = y.lease := by
  rcases h with hi | hm | ⟨m, hm, _, u, _, rfl⟩
  · rw [hi.2]; exact trimWS_empty
  · exact ht y hm
  · exact ht m hm

theorem trimmed_step (c : Cfg) (now : Int) (q q' : Q) (op : Op) (ch : Choice) (r : Resp)
    (ht : Trimmed q) (hch : ChWF ch) (hstep : step c now q op ch = some (q', r)) : Trimmed q' := by
  by_cases hdq : ∃ a b t l, op = .dequeue a b t l
  · obtain ⟨_, _, _, ttl, rfl⟩ := hdq
    cases step_view hstep with
    | @dequeue _ _ _ _ q0 hp =>
      -- pruned, swept (a released message carries no lease id), then granted a generated id or left alone
      intro y hy
      obtain ⟨x, hx, rfl⟩ := List.mem_map.1 hy
      rw [sweep_msgs] at hx
      obtain ⟨m, hm, rfl⟩ := List.mem_map.1 hx
      have hs : trimWS (swf c now q0.lastSweep m).lease = (swf c now q0.lastSweep m).lease := by
        rcases swf_cases c now q0.lastSweep m with h | ⟨_, h⟩ <;> rw [h]
        · exact ht m ((prune_sublist hp).1.subset hm)
        · exact trimWS_empty
      rcases grant_cases now (effTTL ttl) ch.picks (swf c now q0.lastSweep m) with h | ⟨p, hpick, _, _, h⟩ <;> rw [h]
      · exact hs
      · exact hch p hpick
  · have h := step_noLease (mono := False) nofun (fun a b t l e => hdq ⟨a, b, t, l, e⟩) hstep
    exact fun y hy => (h.kept y hy).trimmed ht

#print axioms Hk.trimmed_step

end Hk
