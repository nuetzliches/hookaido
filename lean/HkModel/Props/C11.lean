import HkModel.Model.ApiAuth
/-! C11 — Pull, Worker and Admin APIs act only for authorized callers. -/
namespace Hk.ApiAuth
open Hk.Egress (trimWS)

theorem mem_usable {tokens : List String} {t : String} : t ∈ usable tokens ↔ t ∈ tokens ∧ t ≠ "" := by
  simp [usable]

theorem bearerHTTP_iff (tokens : List String) (hdr : String) (hne : usable tokens ≠ []) :
    bearerHTTP tokens hdr = true ↔
      startsWith hdr "Bearer " = true ∧ trimWS (String.ofList (hdr.toList.drop 7)) ∈ usable tokens := by
  have h0 : startsWith "" "Bearer " = false := by decide
  unfold bearerHTTP
  simp only [List.isEmpty_eq_false_iff.mpr hne]
  by_cases he : hdr = ""
  · subst he; simp [h0]
  · simp [he, mem_usable]

/-- **HTTP authorization is sound**: the presented token *equals* an allowed one, so a proper prefix, suffix or case
    variant of a token, or another route's token, is never enough. -/
theorem authorize_sound (tokens : List String) (hdr : String) (hne : usable tokens ≠ [])
    (h : bearerHTTP tokens hdr = true) :
    startsWith hdr "Bearer " = true ∧
    trimWS (String.ofList (hdr.toList.drop 7)) ∈ tokens ∧ trimWS (String.ofList (hdr.toList.drop 7)) ≠ "" :=
  ((bearerHTTP_iff tokens hdr hne).mp h).imp_right mem_usable.mp

theorem no_header_rejected (tokens : List String) (hne : usable tokens ≠ []) : bearerHTTP tokens "" = false := by
  simp [bearerHTTP, List.isEmpty_eq_false_iff.mpr hne]

theorem bearerGRPC_iff (tokens values : List String) (hne : usable tokens ≠ []) :
    bearerGRPC tokens values = true ↔ ∃ raw ∈ values, ∃ t, parseBearerGRPC raw = some t ∧ t ∈ usable tokens := by
  unfold bearerGRPC
  simp only [List.isEmpty_eq_false_iff.mpr hne, Bool.false_eq_true, ite_false, List.any_eq_true]
  refine exists_congr fun raw => and_congr_right fun _ => ?_
  cases parseBearerGRPC raw <;> simp

theorem authorize_sound_grpc (tokens : List String) (values : List String) (hne : usable tokens ≠ [])
    (h : bearerGRPC tokens values = true) :
    ∃ raw ∈ values, ∃ t, parseBearerGRPC raw = some t ∧ t ∈ tokens ∧ t ≠ "" := by
  obtain ⟨raw, hr, t, hp, ht⟩ := (bearerGRPC_iff tokens values hne).mp h
  exact ⟨raw, hr, t, hp, mem_usable.mp ht⟩

theorem no_metadata_rejected (tokens : List String) (hne : usable tokens ≠ []) : bearerGRPC tokens [] = false := by
  simp [bearerGRPC, List.isEmpty_eq_false_iff.mpr hne]

/-- **Route override replaces the global list**: a route that declares its own tokens is governed by them alone. -/
theorem override_replaces (global : List String) (routes : List PullRoute) (r : PullRoute)
    (hr : routes.find? (·.endpoint == r.endpoint) = some r) (ht : r.tokens ≠ []) :
    effective global routes r.endpoint = r.tokens := by
  simp [effective, hr, List.isEmpty_eq_false_iff.mpr ht]

theorem global_only_token_rejected_on_override (global : List String) (routes : List PullRoute) (r : PullRoute)
    (hr : routes.find? (·.endpoint == r.endpoint) = some r) (ht : usable r.tokens ≠ []) (hdr : String)
    (hnot : trimWS (String.ofList (hdr.toList.drop 7)) ∉ r.tokens) :
    authorizePull global routes r.endpoint hdr = false := by
  have hne : r.tokens ≠ [] := fun h => ht (by rw [h]; rfl)
  rw [authorizePull, override_replaces global routes r hr hne, Bool.eq_false_iff]
  exact fun hb => hnot (authorize_sound r.tokens hdr ht hb).2.1

/-- **A compiled configuration never leaves a pull route open**: if the compile condition holds, every pull
    route's effective allowlist is non-empty, hence a request without a valid token is refused there. -/
theorem compiled_never_open (global : List String) (routes : List PullRoute) (hc : compileOK global routes = true)
    (r : PullRoute) (hr : r ∈ routes) : authorizePull global routes r.endpoint "" = false := by
  unfold compileOK at hc
  have := List.all_eq_true.mp hc r hr
  simp only [Bool.not_eq_true', List.isEmpty_eq_false_iff] at this
  unfold authorizePull
  exact no_header_rejected _ this

example : bearerHTTP ["tok", "t2"] "Bearer tok" = true ∧ bearerHTTP ["tok"] "Bearer to" = false ∧
    bearerHTTP ["tok"] "Bearer tokx" = false ∧ bearerHTTP ["tok"] "bearer tok" = false ∧
    bearerHTTP ["tok"] "Bearer TOK" = false ∧ bearerHTTP ["tok"] "Bearer  tok " = true ∧ bearerHTTP ["tok"] "Bearer " = false := by
  decide +kernel
example : bearerGRPC ["tok"] ["Basic x", "bEaReR tok"] = true ∧ bearerGRPC ["tok"] ["Bearer"] = false := by decide +kernel
example : authorizePull ["g"] [{ route := "/a", endpoint := "/pull/a", tokens := ["ra"] }] "/pull/a" "Bearer g" = false ∧
    authorizePull ["g"] [{ route := "/a", endpoint := "/pull/a", tokens := ["ra"] }] "/pull/a" "Bearer ra" = true := by decide +kernel

end Hk.ApiAuth
