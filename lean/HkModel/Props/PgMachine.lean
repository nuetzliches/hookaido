/-
  The PostgreSQL store's statements follow the documented state machine (C02, C12, C14; C13 "and Postgres").

  PostgreSQL cannot be executed in this sandbox. Its numbered placeholders, however, make the binding between a statement and
  the `State…` constants handed to it exact, so the extractor can read, for every statement of `postgres.go` that assigns
  `state` or deletes rows of `queue_items`, the state it assigns and the states its WHERE clause admits
  (`Generated/PgTransitions.lean`, regenerated on every run).
-/
import HkModel.Generated.PgTransitions

namespace Hk.PgMachine

/-- the machine of the property statement: queued→leased by dequeue; leased→queued by nack or expiry; leased→delivered by
    ack; leased→dead by dead-letter; queued|leased|dead→canceled by cancel; dead|canceled→queued by requeue / resume -/
def machine : List (String × String) :=
  [("queued", "leased"), ("leased", "queued"), ("leased", "delivered"), ("leased", "dead"),
   ("queued", "canceled"), ("leased", "canceled"), ("dead", "canceled"), ("dead", "queued"), ("canceled", "queued")]

theorem postgres_updates_follow_the_machine :
    Gen.pgUpdates.all (fun (_, to, from_) => from_.all (fun f => machine.contains (f, to))) = true := by decide +kernel

/-- exactly one UPDATE carries no state guard of its own: `requeueLeaseTx`, which runs on a row the caller holds `FOR UPDATE`
    after having read its lease; a second one would be noticed -/
theorem postgres_unguarded_updates :
    (Gen.pgUpdates.filter (fun (_, _, from_) => from_.isEmpty)).map (fun (fn, to, _) => (fn, to)) = [("requeueLeaseTx", "queued")] := by
  decide +kernel

def fromOf (fn : String) : List (String × List String) :=
  (Gen.pgUpdates.filter (·.1 == fn)).map (fun (_, to, from_) => (to, from_))

/-- C14's "only from the states the operation is defined for" -/
theorem postgres_operator_mutations_as_documented :
    fromOf "CancelMessages" = [("canceled", ["queued", "leased", "dead"])] ∧
    fromOf "RequeueMessages" = [("queued", ["dead", "canceled"])] ∧
    fromOf "ResumeMessages" = [("queued", ["canceled"])] ∧
    fromOf "RequeueDead" = [("queued", ["dead"])] ∧
    (Gen.pgDeletes.filter (·.1 == "DeleteDead")).map (·.2) = [["dead"]] := by decide +kernel

theorem postgres_lease_operations_need_a_lease :
    fromOf "dequeueOnce" = [("leased", ["queued"])] ∧ fromOf "Ack" = [("delivered", ["leased"])] ∧
    fromOf "Nack" = [("queued", ["leased"])] ∧ fromOf "MarkDead" = [("dead", ["leased"])] ∧
    fromOf "requeueExpiredLeasesTx" = [("queued", ["leased"])] := by decide +kernel

/-- the removal causes C02 and C12 list; neither the retention prune nor `drop_oldest` deletes a leased row -/
theorem postgres_removals :
    Gen.pgDeletes.all (fun (fn, sts) =>
      !sts.isEmpty &&
      (if fn == "Ack" then sts == ["leased"]
       else if fn == "DeleteDead" then sts == ["dead"]
       else if fn == "dropOldestQueued" then sts == ["queued"]
       else if fn == "maybePrune" then sts.all (fun s => s == "queued" || s == "delivered" || s == "dead")
       else false)) = true := by decide +kernel

example : Gen.pgUpdates.length ≥ 9 ∧ Gen.pgDeletes.length ≥ 5 := by decide +kernel
example : machine.contains ("delivered", "queued") = false ∧ machine.contains ("canceled", "leased") = false := by decide +kernel

end Hk.PgMachine
